import PigeonVerif.Model.Basic
import PigeonVerif.Model.Runtime
import PigeonVerif.Model.Blocks
import PigeonVerif.Model.Protocol
import PigeonVerif.Proofs.Frame
import PigeonVerif.Proofs.FrameProof
import PigeonVerif.Proofs.TermProof
import PigeonVerif.Properties.C01
import PigeonVerif.Properties.C05
import PigeonVerif.Properties.C11
import PigeonVerif.Properties.C14
import PigeonVerif.Properties.C16
import PigeonVerif.Proofs.OptEquiv
import PigeonVerif.Properties.C02
import PigeonVerif.Properties.C06
import PigeonVerif.Properties.C10
import PigeonVerif.Properties.C12
import PigeonVerif.Properties.C17
import PigeonVerif.Model.Mid
import PigeonVerif.Model.MidProtocol
import PigeonVerif.Properties.C07
import PigeonVerif.Properties.C19
import PigeonVerif.Properties.C08
import PigeonVerif.Properties.C15
import PigeonVerif.Proofs.PtInv
import PigeonVerif.Properties.C18
import PigeonVerif.Properties.C03
import PigeonVerif.Properties.C04
import PigeonVerif.Properties.C13
import PigeonVerif.Properties.C20
import PigeonVerif.Properties.C09
import PigeonVerif.Spec.Peg
import PigeonVerif.Spec.SpecProtocol
import PigeonVerif.Proofs.Refine
import PigeonVerif.Proofs.SpecMono
import PigeonVerif.Proofs.FuelMono
import PigeonVerif.Proofs.Hits
import PigeonVerif.Proofs.TermMemo
import PigeonVerif.Proofs.OptEquivNoState
import PigeonVerif.Proofs.Sim2
import PigeonVerif.Proofs.MemoSound
import PigeonVerif.Proofs.Advance
import PigeonVerif.Proofs.WFTerm
import PigeonVerif.Model.WfgProtocol
import PigeonVerif.Proofs.MemoCount
import PigeonVerif.Proofs.AdvanceLR
import PigeonVerif.Proofs.Conv
import PigeonVerif.Proofs.LRTerm
import PigeonVerif.Proofs.MidLemmas
import PigeonVerif.Proofs.Reach
import PigeonVerif.Proofs.Bridge
import PigeonVerif.Proofs.LFree
import PigeonVerif.Proofs.LRIter
import PigeonVerif.Opt.Sem
import PigeonVerif.Opt.Nf
import PigeonVerif.Opt.NfSound
import PigeonVerif.Opt.Validate
import PigeonVerif.Opt.OptProtocol
import PigeonVerif.Proofs.LRIterExpr
import PigeonVerif.Model.Back
import PigeonVerif.Proofs.Scope
import PigeonVerif.Proofs.GenGrammar
import PigeonVerif.Proofs.ThrowLaws
