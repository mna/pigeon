/-
  A budget that is not exhausted is invisible (C16, last clause), for EVERY configuration: Memoize, left recursion, all
  template switches.

  The budget is read in exactly two places, `overBudget` (in `parseExpr`) and `hitsOverBudget` (a memo hit in
  `parseExprWrap`), and both answer by raising the panic `errMaxExprCnt`, which no construct of the interpreter catches: it
  reaches `parse` unchanged. So if the outcome of an evaluation under `MaxExpressions(n)` is NOT that panic, every budget test
  on the way answered "no" - and the evaluation is, step for step, the evaluation without a budget.
-/
import PigeonVerif.Proofs.Follows
import PigeonVerif.Properties.C11Base

namespace PV
namespace RT

/-- the same parse without `MaxExpressions` -/
def withoutBudget (E : Env) : Env := { E with opts := { E.opts with maxExpr := none } }

/-- the outcome is the budget panic -/
def _root_.PV.Outcome.BP : Outcome → Prop
  | .panic (.err m) _ => m = errMaxExprCnt
  | _ => False

theorem not_bp_done (v : Val) (ok : Bool) (s : PState) : ¬ (Outcome.done v ok s).BP := fun h => h

section
variable (E : Env)

theorem SameEnv.withoutBudget : SameEnv E (withoutBudget E) := ⟨⟨rfl, rfl, rfl, rfl, rfl, rfl, rfl, rfl⟩, rfl, rfl⟩

@[simp] theorem noBudget_restoreState (s : PState) (st : Store) : restoreState (withoutBudget E) s st = restoreState E s st := rfl
@[simp] theorem noBudget_callBlock (blk : Nat) (s : PState) : callBlock (withoutBudget E) blk s = callBlock E blk s := rfl
@[simp] theorem noBudget_read (s : PState) : read (withoutBudget E) s = read E s := (SameEnv.withoutBudget E).read s
@[simp] theorem noBudget_addErr (s : PState) (m : String) : addErr (withoutBudget E) s m = addErr E s m := rfl
@[simp] theorem noBudget_addErrOpt (s : PState) (m : Option String) : addErrOpt (withoutBudget E) s m = addErrOpt E s m := rfl
@[simp] theorem noBudget_addErrAtOpt (s : PState) (m : Option String) (p : Pos) :
    addErrAtOpt (withoutBudget E) s m p = addErrAtOpt E s m p := rfl
@[simp] theorem noBudget_sliceFrom (s : PState) (p : Savepoint) : sliceFrom (withoutBudget E) s p = sliceFrom E s p := rfl
@[simp] theorem noBudget_litCur (ic : Bool) (s : PState) : litCur (withoutBudget E) ic s = litCur E ic s := rfl
@[simp] theorem noBudget_topIsLR (s : PState) : topIsLR (withoutBudget E) s = topIsLR E s := rfl
@[simp] theorem noBudget_useState : (withoutBudget E).useState = E.useState := rfl
@[simp] theorem noBudget_findRule (n : String) : (withoutBudget E).findRule n = E.findRule n := rfl
@[simp] theorem noBudget_matchOne (s : PState) (w : String) : matchOne (withoutBudget E) s w = matchOne E s w :=
  (SameEnv.withoutBudget E).matchOne s w
@[simp] theorem noBudget_parseCharClass (c : ClassDesc) (s : PState) : parseCharClass (withoutBudget E) c s = parseCharClass E c s :=
  (SameEnv.withoutBudget E).parseCharClass c s
@[simp] theorem noBudget_parseAny (s : PState) : parseAny (withoutBudget E) s = parseAny E s :=
  (SameEnv.withoutBudget E).parseAny s
@[simp] theorem noBudget_hits (s : PState) : hitsOverBudget (withoutBudget E) s = false := rfl
@[simp] theorem noBudget_over (s : PState) : overBudget (withoutBudget E) s = false := rfl

theorem budgetFollows_nb : BudgetFollows (¬ ·.BP) E (withoutBudget E) :=
  ⟨fun _ => .inr ⟨rfl, fun h => h rfl⟩, fun _ => .inr ⟨rfl, fun h => h rfl⟩⟩

end

/-- a rule invocation, for any two evaluators of which the second follows the first -/
theorem ruleWrap_nb {E : Env} {rec rec' : Expr → PState → Outcome} (hrec : ∀ e s, ¬ (rec e s).BP → rec' e s = rec e s)
    (k : Nat) (r : Rule) (s : PState) (h : ¬ (parseRuleWrap E rec k r s).BP) :
    parseRuleWrap (withoutBudget E) rec' k r s = parseRuleWrap E rec k r s :=
  ruleWrap_follows (G := (¬ ·.BP)) (P := fun _ => True) not_bp_done (SameEnv.withoutBudget E).toSameLeaves
    (fun e _ => wrap_follows not_bp_done (.withoutBudget E) (budgetFollows_nb E) hrec e) 0 (fun _ => rfl) k trivial
    (ruleMode_congr rfl rfl r) s h

/-- **an evaluation that does not end in the budget panic is the evaluation without a budget** -/
theorem parseExpr_nb (E : Env) : ∀ (f : Nat) (e : Expr) (s : PState),
    ¬ (parseExpr E f e s).BP → parseExpr (withoutBudget E) f e s = parseExpr E f e s :=
  parseExpr_follows (G := (¬ ·.BP)) not_bp_done (.withoutBudget E) (budgetFollows_nb E) 0 fun _ => rfl

/-- a result whose error list does not report the budget error does not come from the budget panic -/
theorem not_bp_of_finish {E : Env} {o : Outcome} {v : Val} {errs : List String} {s : PState}
    (h : finish E o = .ret v errs s) (hno : ∀ m ∈ errs, ∀ p : String, m ≠ p ++ ": " ++ errMaxExprCnt) : ¬ o.BP := by
  intro hbp
  cases o with
  | panic p s1 =>
    cases p with
    | err m =>
      cases (hbp : m = errMaxExprCnt)
      cases hrec : E.opts.recover with
      | true =>
        rw [C11_panic_becomes_final_error E hrec] at h
        cases h
        exact hno _ ((C11_dedupe_mem _ _).2 (List.mem_append_right _ (List.mem_singleton_self _))) _ rfl
      | false => rw [C11_panic_propagates E hrec] at h; cases h
    | _ => exact hbp
  | _ => exact hbp

end RT
end PV
