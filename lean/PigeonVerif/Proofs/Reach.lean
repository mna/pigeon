/-
  `Mid.reachFrom` (the breadth-first closure used by the left-recursion specification and the SCC model) computes the
  set of vertices reachable in at least one step, on graphs whose edges stay inside the vertex list. Consequence: a
  graph in which no vertex reaches itself has a ranking that strictly decreases along every edge (the number of
  reachable vertices); the model's component `sccOf g v` is the class of `v` under "equal or on a common cycle". The first
  graph of the analysis and the graph of the specification are such graphs (`firstGraph_ok`, `specGraph_ok`).
-/
import PigeonVerif.Proofs.MidLemmas

namespace PV
namespace Mid

/-- a path with at least one edge -/
inductive Path (g : Graph) : String → String → Prop
  | edge {a b : String} : b ∈ succs g a → Path g a b
  | step {a b c : String} : b ∈ succs g a → Path g b c → Path g a c

theorem Path.trans {g : Graph} {a b c : String} (h1 : Path g a b) (h2 : Path g b c) : Path g a c := by
  induction h1 with
  | edge h => exact .step h h2
  | step h _ ih => exact .step h (ih h2)

theorem path_first {g : Graph} {a c : String} (h : Path g a c) : ∃ d, d ∈ succs g a := by
  cases h with
  | edge he => exact ⟨_, he⟩
  | step he _ => exact ⟨_, he⟩

/-- edge-wise inclusion lifts to paths; `ok` is whatever the inclusion needs to know of the vertices on the way
    (`True` for `SameSuccs`; "has an outgoing edge" for the first graph inside the specification's) -/
theorem Path.mono {g1 g2 : Graph} {ok : String → Prop} (hok : ∀ a b, b ∈ succs g1 a → ok a)
    (he : ∀ a b, b ∈ succs g1 a → ok b → b ∈ succs g2 a) {a c : String} (h : Path g1 a c) : ok c → Path g2 a c := by
  induction h with
  | edge e => exact fun hc => .edge (he _ _ e hc)
  | step e p ih =>
    refine fun hc => .step (he _ _ e ?_) (ih hc)
    cases p with
    | edge e2 => exact hok _ _ e2
    | step e2 _ => exact hok _ _ e2

/-- edges stay inside the vertex list -/
def GraphOK (g : Graph) : Prop := ∀ v, ∀ t ∈ succs g v, t ∈ g.map (·.1)

structure BInv (g : Graph) (v0 : String) (frontier seen : List String) : Prop where
  nodup : seen.Nodup
  inside : ∀ x ∈ seen, x ∈ g.map (·.1)
  sound : ∀ x ∈ seen, Path g v0 x
  fsound : ∀ x ∈ frontier, x = v0 ∨ Path g v0 x
  /-- whatever has been expanded has its successors in `seen` -/
  closed : ∀ x, (x = v0 ∨ x ∈ seen) → x ∉ frontier → ∀ y ∈ succs g x, y ∈ seen

/-- the next frontier: the successors of the frontier not seen before -/
def fresh (g : Graph) (frontier seen : List String) : List String :=
  (frontier.foldl (fun acc u => union acc (succs g u)) []).filter (fun x => !seen.contains x)

theorem mem_fresh {g : Graph} {x : String} {fr seen : List String} :
    x ∈ fresh g fr seen ↔ (∃ u ∈ fr, x ∈ succs g u) ∧ x ∉ seen := by
  unfold fresh; rw [List.mem_filter, mem_foldl_union]; simp

theorem go_succ (g : Graph) (k : Nat) (fr seen : List String) :
    reachFrom.go g (k + 1) fr seen =
      if (fresh g fr seen).isEmpty then seen else reachFrom.go g k (fresh g fr seen) (union seen (fresh g fr seen)) := rfl

theorem BInv.step {g : Graph} (hg : GraphOK g) {v0 : String} {fr seen : List String} (hi : BInv g v0 fr seen) :
    BInv g v0 (fresh g fr seen) (union seen (fresh g fr seen)) := by
  have hsound : ∀ x ∈ fresh g fr seen, Path g v0 x := fun x hx =>
    have ⟨⟨u, hu, hxu⟩, _⟩ := mem_fresh.mp hx
    (hi.fsound u hu).elim (fun e => .edge (e ▸ hxu)) (·.trans (.edge hxu))
  refine ⟨nodup_union _ _ hi.nodup, fun x hx => ?_, fun x hx => ((mem_union ..).mp hx).elim (hi.sound x) (hsound x),
    fun x hx => .inr (hsound x hx), fun x hx hxnf y hy => (mem_union ..).mpr ?_⟩
  · exact ((mem_union ..).mp hx).elim (hi.inside x) fun hx => have ⟨⟨u, _, hxu⟩, _⟩ := mem_fresh.mp hx; hg u x hxu
  · -- `x` is not fresh, so it was seen before; its successors are seen already, or fresh if `x` is expanded now
    have hx' := hx.imp_right fun hx => ((mem_union ..).mp hx).resolve_right hxnf
    by_cases hxf : x ∈ fr
    · exact (Classical.em (y ∈ seen)).imp_right fun hys => mem_fresh.mpr ⟨⟨x, hxf, hy⟩, hys⟩
    · exact .inl (hi.closed x hx' hxf y hy)

/-- the search ends with an empty frontier once the fuel covers the vertices not yet seen -/
theorem go_spec {g : Graph} (hg : GraphOK g) {v0 : String} (k : Nat) : ∀ {fr seen : List String},
    BInv g v0 fr seen → g.length + 1 ≤ seen.length + k → BInv g v0 [] (reachFrom.go g k fr seen) := by
  induction k with
  | zero =>
    intro _ seen hi hk
    have := hi.nodup.length_le_of_subset (l₂ := g.map (·.1)) fun _ hx => hi.inside _ hx
    rw [List.length_map] at this
    omega
  | succ k ih =>
    intro fr seen hi hk
    have hi' := hi.step hg
    rw [go_succ]
    split
    · next he => rw [List.isEmpty_iff.mp he] at hi'; exact hi'
    · next hne =>
      obtain ⟨w, hw⟩ := List.exists_mem_of_ne_nil _ (mt List.isEmpty_iff.mpr hne)
      have := length_lt_union hw (mem_fresh.mp hw).2 hi.nodup
      exact ih hi' (by omega)

theorem reachFrom_spec (g : Graph) (hg : GraphOK g) (v : String) :
    (reachFrom g v).Nodup ∧ (∀ x ∈ reachFrom g v, Path g v x) ∧
      (∀ x, (x = v ∨ x ∈ reachFrom g v) → ∀ y ∈ succs g x, y ∈ reachFrom g v) :=
  have h : BInv g v [] (reachFrom g v) := go_spec hg (g.length + 1)
    ⟨.nil, (fun _ h => nomatch h), (fun _ h => nomatch h), fun _ hx => .inl (List.mem_singleton.mp hx),
      fun _ hx hnf => (hnf (hx.elim (· ▸ List.mem_cons_self) fun h => nomatch h)).elim⟩ (Nat.le_add_left ..)
  ⟨h.nodup, h.sound, fun x hx => h.closed x hx List.not_mem_nil⟩

theorem path_in_closed {g : Graph} {S : List String} (hS : ∀ x ∈ S, ∀ y ∈ succs g x, y ∈ S) {p q : String}
    (h : Path g p q) : p ∈ S → q ∈ S := by
  induction h with
  | edge h1 => intro hp; exact hS _ hp _ h1
  | step h1 _ ih => intro hp; exact ih (hS _ hp _ h1)

theorem reachFrom_complete (g : Graph) (hg : GraphOK g) {v x : String} (h : Path g v x) : x ∈ reachFrom g v := by
  obtain ⟨_, _, hc⟩ := reachFrom_spec g hg v
  cases h with
  | edge he => exact hc _ (Or.inl rfl) _ he
  | step he hp => exact path_in_closed (fun x hx => hc x (Or.inr hx)) hp (hc _ (Or.inl rfl) _ he)

theorem mem_reachFrom_iff (g : Graph) (hg : GraphOK g) (v x : String) : x ∈ reachFrom g v ↔ Path g v x :=
  ⟨fun h => (reachFrom_spec g hg v).2.1 x h, fun h => reachFrom_complete g hg h⟩

theorem acyclic_rank (g : Graph) (hg : GraphOK g) (hac : ∀ v ∈ g.map (·.1), v ∉ reachFrom g v) {v u : String} (he : u ∈ succs g v) :
    (reachFrom g u).length < (reachFrom g v).length := by
  obtain ⟨hnu, hsu, _⟩ := reachFrom_spec g hg u
  have huv : u ∈ reachFrom g v := reachFrom_complete g hg (.edge he)
  have hsub : ∀ x ∈ u :: reachFrom g u, x ∈ reachFrom g v := by
    intro x hx
    rcases List.mem_cons.mp hx with rfl | hx
    · exact huv
    · exact reachFrom_complete g hg (Path.step he (hsu x hx))
  have := (List.nodup_cons.mpr ⟨hac u (hg v u he), hnu⟩).length_le_of_subset fun x hx => hsub x hx
  simp only [List.length_cons] at this
  omega

theorem mem_sccOf (g : Graph) (v x : String) :
    x ∈ sccOf g v ↔ x = v ∨ (x ∈ reachFrom g v ∧ x ≠ v ∧ v ∈ reachFrom g x) := by
  simp [sccOf, List.mem_filter]

theorem self_mem_sccOf (g : Graph) (v : String) : v ∈ sccOf g v := List.mem_cons_self

theorem sccOf_nodup (g : Graph) (hg : GraphOK g) (v : String) : (sccOf g v).Nodup := by
  unfold sccOf
  refine List.nodup_cons.mpr ⟨?_, ((reachFrom_spec g hg v).1).filter _⟩
  intro h
  have := (List.mem_filter.mp h).2
  simp at this

/-- by `congrArg`: `sccOf g v` unfolds to `v :: filter …` -/
theorem scc_small (g : Graph) (v : String) (h : ¬ (sccOf g v).length > 1) : sccOf g v = [v] :=
  congrArg (v :: ·) (List.eq_nil_of_length_eq_zero (Nat.le_zero.mp (Nat.le_of_not_lt fun h' => h (Nat.succ_lt_succ h'))))

theorem exists_ne_of_big {g : Graph} {v : String} (h : (sccOf g v).length > 1) : ∃ y ∈ sccOf g v, y ≠ v :=
  have ⟨y, hy⟩ := List.exists_mem_of_length_pos (Nat.lt_of_succ_lt_succ h)
  ⟨y, .tail _ hy, by simpa using (Bool.and_eq_true_iff.mp (List.mem_filter.mp hy).2).1⟩

/-- `x` is `v` or lies on a common cycle with it -/
def Conn (g : Graph) (v x : String) : Prop := x = v ∨ (Path g v x ∧ Path g x v)

theorem Conn.symm {g : Graph} {v x : String} (h : Conn g v x) : Conn g x v := by
  rcases h with rfl | ⟨a, b⟩
  · exact Or.inl rfl
  · exact Or.inr ⟨b, a⟩

theorem Conn.trans {g : Graph} {a b c : String} (h1 : Conn g a b) (h2 : Conn g b c) : Conn g a c := by
  rcases h1 with rfl | ⟨p1, q1⟩
  · exact h2
  · rcases h2 with rfl | ⟨p2, q2⟩
    · exact Or.inr ⟨p1, q1⟩
    · exact Or.inr ⟨p1.trans p2, q2.trans q1⟩

theorem mem_sccOf_iff (g : Graph) (hg : GraphOK g) (v x : String) : x ∈ sccOf g v ↔ Conn g v x := by
  rw [mem_sccOf, mem_reachFrom_iff g hg, mem_reachFrom_iff g hg]
  constructor
  · rintro (h | ⟨a, _, b⟩)
    · exact Or.inl h
    · exact Or.inr ⟨a, b⟩
  · rintro (h | ⟨a, b⟩)
    · exact Or.inl h
    · by_cases hx : x = v
      · exact Or.inl hx
      · exact Or.inr ⟨a, hx, b⟩

theorem firstGraph_edge {cfg : Cfg} {G : AGrammar} {a b : String} (h : b ∈ succs (firstGraph cfg G) a) :
    ∃ r ∈ G, r.name = a ∧ b ∈ initialNames cfg r.expr := by
  obtain ⟨ns, hm, hb⟩ := mem_succs h
  unfold firstGraph at hm
  simp only [List.mem_append, List.mem_map] at hm
  rcases hm with ⟨r, hr, heq⟩ | ⟨t, _, heq⟩
  · cases heq; exact ⟨r, hr, rfl, hb⟩
  · cases heq; cases hb

theorem firstGraph_ok (cfg : Cfg) (G : AGrammar) : GraphOK (firstGraph cfg G) := by
  intro v t ht
  obtain ⟨r, hr, _, hb⟩ := firstGraph_edge ht
  unfold firstGraph
  simp only [List.map_append, List.mem_append]
  -- the target is a key or was added
  by_cases hk : ((G.map (fun r => (r.name, initialNames cfg r.expr))).any (·.1 = t)) = true
  · left
    obtain ⟨e, he, het⟩ := List.any_eq_true.mp hk
    exact List.mem_map.mpr ⟨e, he, by simpa using het⟩
  · right
    refine List.mem_map.mpr ⟨(t, []), List.mem_map.mpr ⟨t, List.mem_filter.mpr ⟨?_, ?_⟩, rfl⟩, rfl⟩
    · exact (mem_foldl_union (·.2) t _ []).mpr (Or.inr ⟨_, List.mem_map_of_mem (f := fun r => (r.name, initialNames cfg r.expr)) hr, hb⟩)
    · show (!(List.any _ _)) = true
      rw [Bool.eq_false_iff.mpr hk]; rfl

theorem specGraph_ok (G : AGrammar) : GraphOK (Spec.specGraph G) := by
  intro v t ht
  obtain ⟨ns, hm, ht⟩ := mem_succs ht
  unfold Spec.specGraph at hm ⊢
  obtain ⟨r, _, hr⟩ := List.mem_map.mp hm
  cases hr
  obtain ⟨r2, hr2, hn2⟩ := List.any_eq_true.mp (List.mem_filter.mp ht).2
  rw [List.map_map]
  exact List.mem_map.mpr ⟨r2, hr2, by simpa using hn2⟩

end Mid
end PV
