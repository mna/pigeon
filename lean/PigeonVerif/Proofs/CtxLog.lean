/-
  Every code block sees a piece of the input: in every state the interpreter passes through - every grammar, code
  environment, flag and option set (memoization, left recursion, a budget), input and fuel - the context `(c.pos, c.text)`
  that the next block call will be given, and the context of every block call recorded so far, satisfy

      text = the bytes of the input from offset pos.offset, as many as text is long

  (`CtxOK`). The only writer of `cur.pos` / `cur.text` is `parseActionExpr`, which sets them to the match start and to
  `sliceFrom` of the input; predicate and state blocks inherit what the last action left (finding D2), which is still a
  slice of the input at that position; before the first action both are zero / empty. The statement about line and column
  (`C02_pos_pure`) is separate: it needs the reader invariant.
-/
import PigeonVerif.Proofs.Kept

namespace PV

/-- `text` is the input at offset `pos.off` -/
def CtxOK (inp : List Nat) (pos : Pos) (text : List Nat) : Prop := text = (inp.drop pos.off).take text.length

theorem CtxOK.slice (inp : List Nat) (pos : Pos) (n : Nat) : CtxOK inp pos ((inp.drop pos.off).take n) := by
  unfold CtxOK
  rw [List.length_take, ← List.take_eq_take_min]

theorem CtxOK.nil (inp : List Nat) (pos : Pos) : CtxOK inp pos [] := by simp [CtxOK]

namespace RT

frame_lemmas addErrAt (addErrAt E s m p) rfl : curPos curText end
frame_lemmas read (read E s) (read_writes E s) : curPos curText end

set_option autoImplicit false

/-- **the invariant**: the pending context and every recorded one are slices of the input at their position -/
def CI (E : Env) (s : PState) : Prop :=
  CtxOK E.input s.curPos s.curText ∧ ∀ ev ∈ s.trace, CtxOK E.input ev.pos ev.text

/-- a block call records the pending context and leaves it pending -/
theorem CI.callBlock {E : Env} {s : PState} (h : CI E s) (blk : Nat) : CI E (callBlock E blk s).2 := by
  refine ⟨h.1, ?_⟩
  intro ev hev
  simp only [RT.callBlock, List.mem_cons] at hev
  rcases hev with rfl | hev
  · exact h.1
  · exact h.2 ev hev

/-- `parseActionExpr` sets the context to the match start and the matched bytes -/
theorem CI.action {E : Env} {s1 : PState} (h : CI E s1) (start : Savepoint) :
    CI E { s1 with curPos := start.pos, curText := sliceFrom E s1 start } :=
  ⟨CtxOK.slice E.input start.pos _, h.2⟩

/-- the pending context is written by actions only, the trace by block calls only -/
theorem CI.kept (E : Env) : Kept E (CI E) (CI E) where
  pt _ _ h := h
  state _ _ h := h
  vstack _ _ h := h
  rstack _ _ h := h
  recov _ _ h := h
  invert _ _ h := h
  memo _ _ h := h
  errs _ _ h := h
  choiceCnt _ _ h := h
  cur _ start h := h.action start
  failAt _ _ _ _ h := failAt_writes .. ▸ h
  callBlock _ blk h := h.callBlock blk
  bump _ h := h
  hit _ h _ _ := h
  panicHit _ h := h
  panic _ h := h

theorem ruleWrap_ci {E : Env} {rec : Expr → PState → Outcome}
    (hrec : ∀ e s, CI E s → (rec e s).Sat (fun _ _ s' => CI E s') (CI E)) (k : Nat) (r : Rule) (s : PState) (h : CI E s) :
    (parseRuleWrap E rec k r s).Sat (fun _ _ s' => CI E s') (CI E) :=
  (CI.kept E).ruleWrap hrec k r s h

/-- **every block call is given a piece of the input at its position**, in every configuration -/
theorem parseExpr_ci (E : Env) :
    ∀ (f : Nat) (e : Expr) (s : PState), CI E s → (parseExpr E f e s).Sat (fun _ _ s' => CI E s') (CI E) :=
  (CI.kept E).parseExpr

/-- the state `parse` starts from -/
theorem startState_ci (E : Env) : CI E (startState E) := by
  obtain ⟨errs, h⟩ := startState_fields E
  rw [h]; exact ⟨CtxOK.nil _ _, fun _ he => nomatch he⟩

end RT
end PV
