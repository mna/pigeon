/-
  One traversal of the interpreter for every statement of the form "the second run returns what the first
  returns, unless the first ends in an outcome the guard `G` rules out" (`Follows`).

  The two runs start in the same state; they may differ in the environment (`E1`, `E2`), the recursive call
  (`rec`, `rec'`) and the fuel (`k`, `k + d`). All the guard has to do is let every normal return through: then
  it can only fail on `oof` or a panic, both of which `Outcome.bind` passes on unchanged, so a guarded outcome of
  a composite run means guarded outcomes of all its parts.
    * fuel monotonicity (FuelMono):          `E2 = E1`,                 `G o := o ≠ .oof`
    * budget transparency (BudgetTransparent): `E2 = withoutBudget E1`,   `G o := ¬ o.BP`
    * `-optimize-parser` (OptEquiv):          `E2 = withOptimize E1 b`,  `G := fun _ => True`
    * leader-free expressions (LFree):        `E2 = noLR E1`,            `G := fun _ => True`, on `callsIn S`
-/
import PigeonVerif.Proofs.Interp
import PigeonVerif.Proofs.Basic

namespace PV
namespace RT

abbrev Rec := Expr → PState → Outcome

/-- `E2` answers as `E1` wherever the interpreter consults its environment below the two wrappers
    (`parseExprWrap`, `parseRuleWrap`) and the two budget tests -/
structure SameLeaves (E1 E2 : Env) : Prop where
  useState : E2.useState = E1.useState
  code : E2.code = E1.code
  input : E2.input = E1.input
  toLower : E2.toLower = E1.toLower
  rules : E2.rules = E1.rules
  filename : E2.opts.filename = E1.opts.filename
  allowInvalid : E2.opts.allowInvalid = E1.opts.allowInvalid
  basicLatin : E2.flags.basicLatin = E1.flags.basicLatin

/-- ... and in the two wrappers as well: these read `leftRec` and `Env.memoize` (`parseExprWrap_eq`, `ruleMode`);
    `optimize` shows only through `memoize` and `useState` -/
structure SameEnv (E1 E2 : Env) : Prop extends SameLeaves E1 E2 where
  leftRec : E2.flags.leftRec = E1.flags.leftRec
  memoize : E2.memoize = E1.memoize

theorem SameLeaves.refl (E : Env) : SameLeaves E E := ⟨rfl, rfl, rfl, rfl, rfl, rfl, rfl, rfl⟩

theorem SameEnv.refl (E : Env) : SameEnv E E := ⟨.refl E, rfl, rfl⟩

namespace SameLeaves
variable {E1 E2 : Env} (h : SameLeaves E1 E2)
include h

theorem restoreState (s : PState) (st : Store) : RT.restoreState E2 s st = RT.restoreState E1 s st := by
  unfold RT.restoreState; rw [h.useState]

theorem callBlock (blk : Nat) (s : PState) : RT.callBlock E2 blk s = RT.callBlock E1 blk s := by
  unfold RT.callBlock; rw [h.useState, h.code]

theorem addErrAt (s : PState) (m : String) (p : Pos) : RT.addErrAt E2 s m p = RT.addErrAt E1 s m p := by
  unfold RT.addErrAt errPrefix; rw [h.filename]

theorem addErr (s : PState) (m : String) : RT.addErr E2 s m = RT.addErr E1 s m := h.addErrAt s m _

theorem addErrAtOpt (s : PState) (o : Option String) (p : Pos) : RT.addErrAtOpt E2 s o p = RT.addErrAtOpt E1 s o p := by
  cases o with
  | none => rfl
  | some m => exact h.addErrAt s m p

theorem read (s : PState) : RT.read E2 s = RT.read E1 s := by
  unfold RT.read; simp only [h.input, h.allowInvalid, h.addErr]

theorem sliceFrom (s : PState) (p : Savepoint) : RT.sliceFrom E2 s p = RT.sliceFrom E1 s p := by
  unfold RT.sliceFrom; rw [h.input]

theorem findRule (n : String) : E2.findRule n = E1.findRule n := by
  unfold Env.findRule; rw [h.rules]

theorem parseLit (start : Savepoint) (want : String) (ic : Bool) (rs : List Rune) :
    ∀ (s : PState), RT.parseLit E2 start want ic rs s = RT.parseLit E1 start want ic rs s := by
  induction rs with
  | nil => exact fun s => by rw [parseLit_nil, parseLit_nil, h.sliceFrom]
  | cons r rs ih =>
    intro s
    rw [parseLit_cons, parseLit_cons, ih]
    unfold litCur
    rw [h.toLower, h.read]

theorem matchOne (s : PState) (w : String) : RT.matchOne E2 s w = RT.matchOne E1 s w := by
  unfold RT.matchOne; simp only [h.read, h.sliceFrom]

theorem parseAny (s : PState) : RT.parseAny E2 s = RT.parseAny E1 s := by
  unfold RT.parseAny; rw [h.matchOne]

theorem parseCharClass (c : ClassDesc) (s : PState) : RT.parseCharClass E2 c s = RT.parseCharClass E1 c s := by
  unfold RT.parseCharClass classContains; simp only [h.basicLatin, h.toLower, h.matchOne]

theorem runCodeBlock (blk : Nat) (s : PState) (k : BlockResult → PState → Outcome) :
    RT.runCodeBlock E2 blk s k = RT.runCodeBlock E1 blk s k := by
  unfold RT.runCodeBlock addErrOpt; simp only [h.callBlock, h.addErrAtOpt]

end SameLeaves

/-- the expressions `parseExprBody` evaluates directly under `e` (not a recovery expression's handler: a later throw finds
    that in the state) -/
def _root_.PV.Expr.kids : Expr → List Expr
  | .action _ _ e | .and _ e | .not _ e | .labeled _ _ e | .oneOrMore _ e | .zeroOrMore _ e | .zeroOrOne _ e
  | .recovery _ e _ _ => [e]
  | .choice _ _ _ es | .seq _ es => es
  | .andCode .. | .notCode .. | .stateCode .. | .any _ | .cls .. | .lit .. | .ruleRef .. | .throw .. => []

/-- the second run follows the first wherever the guard lets the first one's outcome through -/
def Follows (G : Outcome → Prop) (o o' : Outcome) : Prop := G o → o' = o

/-- each of the two budget tests answers under `E2` as under `E1`, or it answers no and the guard rules the budget panic out -/
structure BudgetFollows (G : Outcome → Prop) (E1 E2 : Env) : Prop where
  over : ∀ s, overBudget E2 s = overBudget E1 s ∨ (overBudget E2 s = false ∧ ¬ G (.panic (.err errMaxExprCnt) s))
  hits : ∀ s, hitsOverBudget E2 s = hitsOverBudget E1 s ∨ (hitsOverBudget E2 s = false ∧ ¬ G (.panic (.err errMaxExprCnt) s))

theorem BudgetFollows.of_eq {G : Outcome → Prop} {E1 E2 : Env} (h : E2.opts.maxExpr = E1.opts.maxExpr) :
    BudgetFollows G E1 E2 :=
  ⟨fun _ => .inl (by unfold overBudget; rw [h]), fun _ => .inl (by unfold hitsOverBudget; rw [h])⟩

theorem Follows.guard_ite {G : Outcome → Prop} {c1 c2 : Bool} {x o o' : Outcome} (hc : c2 = c1 ∨ (c2 = false ∧ ¬ G x))
    (h : Follows G o o') : Follows G (if c1 then x else o) (if c2 then x else o') := by
  rcases hc with rfl | ⟨rfl, hng⟩
  · cases c2
    · exact h
    · exact fun _ => rfl
  · cases c1
    · exact h
    · exact fun hg => absurd hg hng

theorem Follows.bind {G : Outcome → Prop} (hG : ∀ v ok s, G (.done v ok s)) {o o' : Outcome}
    {f f' : Val → Bool → PState → Outcome} (ho : Follows G o o') (hf : ∀ v ok s, Follows G (f v ok s) (f' v ok s)) :
    Follows G (o.bind f) (o'.bind f') := by
  intro hg
  cases o with
  | oof => rw [ho hg]; rfl
  | panic p s => rw [ho hg]; rfl
  | done v ok s => rw [ho (hG v ok s)]; exact hf v ok s hg

/-! What follows from the sub-calls alone: `hw`, asked of the expressions of a class `P` only. -/

section
variable {G : Outcome → Prop} (hG : ∀ v ok s, G (.done v ok s)) {E1 E2 : Env} {rec rec' : Rec} {P : Expr → Prop}
  (hw : ∀ e, P e → ∀ s, Follows G (parseExprWrap E1 rec e s) (parseExprWrap E2 rec' e s))
include hG hw

/-- the handlers come from the state, so `hw` is needed of every expression -/
theorem throw_follows (hall : ∀ e, P e) (label : String) (frames : List (List (String × Expr))) : ∀ (s : PState),
    Follows G (parseThrow E1 rec label frames s) (parseThrow E2 rec' label frames s) := by
  induction frames with
  | nil => exact fun _ _ => rfl
  | cons fr frs ih =>
    intro s
    rw [parseThrow_cons, parseThrow_cons]
    cases lookup label fr with
    | none => exact ih s
    | some r =>
      refine Follows.bind hG (hw r (hall r) s) (fun v ok s1 => ?_)
      cases ok with
      | true => exact fun _ => rfl
      | false => exact ih s1

theorem rule_follows {r : Rule} (hr : P r.expr) (s : PState) : Follows G (parseRule E1 rec r s) (parseRule E2 rec' r s) :=
  Follows.bind hG (hw _ hr _) (fun _ _ _ _ => rfl)

theorem ruleMemoize_follows {r : Rule} (hr : P r.expr) (s : PState) :
    Follows G (parseRuleMemoize E1 rec r s) (parseRuleMemoize E2 rec' r s) := by
  unfold parseRuleMemoize
  cases getMemoized s (.rule r.name) with
  | some res => exact fun _ => rfl
  | none => exact Follows.bind hG (rule_follows hG hw hr s) (fun _ _ _ _ => rfl)

/-- the second run may have `d` more units of loop fuel where the guard rules out `oof` -/
theorem loop_follows (d : Nat) (h0 : G .oof → d = 0) {e : Expr} (he : P e) (k : Nat) : ∀ (s : PState) (acc : List Val),
    Follows G (parseLoop E1 rec e k s acc) (parseLoop E2 rec' e (k + d) s acc) := by
  induction k with
  | zero => exact fun _ _ hg => by rw [h0 hg]; rfl
  | succ k ih =>
    intro s acc
    rw [Nat.succ_add, parseLoop_succ, parseLoop_succ]
    refine Follows.bind hG (hw e he _) (fun v ok s1 => ?_)
    cases ok with
    | true => exact ih _ _
    | false => exact fun _ => rfl

end

/-! ... and where the two environments agree below the wrappers (`hl`). -/

section
variable {G : Outcome → Prop} (hG : ∀ v ok s, G (.done v ok s)) {E1 E2 : Env} (hl : SameLeaves E1 E2) {rec rec' : Rec}
  {P : Expr → Prop} (hw : ∀ e, P e → ∀ s, Follows G (parseExprWrap E1 rec e s) (parseExprWrap E2 rec' e s))
include hG hl hw

theorem seq_follows (pt : Savepoint) (st : Store) (es : List Expr) (hes : ∀ e ∈ es, P e) : ∀ (s : PState) (acc : List Val),
    Follows G (parseSeq E1 rec pt st es s acc) (parseSeq E2 rec' pt st es s acc) := by
  induction es with
  | nil => exact fun _ _ _ => rfl
  | cons e es ih =>
    intro s acc
    rw [parseSeq_cons, parseSeq_cons]
    have ⟨he, hes⟩ := List.forall_mem_cons.1 hes
    refine Follows.bind hG (hw e he s) (fun v ok s1 => ?_)
    cases ok with
    | true => exact ih hes s1 _
    | false => exact fun _ => by simp only [Bool.false_eq_true, if_false, hl.restoreState]

theorem choice_follows (line col : Nat) (alts : List Expr) (hes : ∀ e ∈ alts, P e) : ∀ (i : Nat) (s : PState),
    Follows G (parseChoice E1 rec line col alts i s) (parseChoice E2 rec' line col alts i s) := by
  induction alts with
  | nil => exact fun _ _ _ => rfl
  | cons a alts ih =>
    intro i s
    rw [parseChoice_cons, parseChoice_cons]
    have ⟨ha, hes⟩ := List.forall_mem_cons.1 hes
    refine Follows.bind hG (hw a ha _) (fun v ok s1 => ?_)
    cases ok with
    | true => exact fun _ => rfl
    | false => rw [hl.restoreState]; exact ih hes _ _

/-! The traversal, for a class `P` closed under `Expr.kids`. The second run may have `d` more units of loop fuel where the
    guard rules out `oof`. -/

section
variable (d : Nat) (h0 : G .oof → d = 0)
include h0

theorem leaderLoop_follows {r : Rule} (hr : P r.expr) (startMark : Savepoint) (k : Nat) :
    ∀ (depth : Nat) (last : MemoVal) (lastErrs : List String) (s : PState),
      Follows G (leaderLoop E1 rec r startMark k depth last lastErrs s)
        (leaderLoop E2 rec' r startMark (k + d) depth last lastErrs s) := by
  induction k with
  | zero => exact fun _ _ _ _ hg => by rw [h0 hg]; rfl
  | succ k ih =>
    intro depth last lastErrs s
    rw [Nat.succ_add, leaderLoop_succ, leaderLoop_succ]
    refine Follows.bind hG (rule_follows hG hw hr _) (fun v ok s2 => ?_)
    rw [hl.restoreState]
    exact ite_rel (fun _ _ => rfl) (fun _ => ih _ _ _ _)

theorem ruleLeader_follows (k : Nat) {r : Rule} (hr : P r.expr) (s : PState) :
    Follows G (parseRuleLeader E1 rec k r s) (parseRuleLeader E2 rec' (k + d) r s) := by
  unfold parseRuleLeader
  cases getMemoized s (.rule r.name) with
  | some res => exact fun _ => rfl
  | none => exact leaderLoop_follows hG hl hw d h0 hr _ k 0 _ _ s

theorem ruleWrap_follows (k : Nat) {r : Rule} (hr : P r.expr) (hm : ruleMode E2 r = ruleMode E1 r) (s : PState) :
    Follows G (parseRuleWrap E1 rec k r s) (parseRuleWrap E2 rec' (k + d) r s) := by
  rw [parseRuleWrap_eq, parseRuleWrap_eq, hm]
  cases ruleMode E1 r with
  | leader => exact ruleLeader_follows hG hl hw d h0 k hr s
  | memo => exact ruleMemoize_follows hG hw hr s
  | plain => exact rule_follows hG hw hr s

theorem body_follows (hP : ∀ e, P e → ∀ c ∈ e.kids, P c) (hthrow : ∀ id l, P (.throw id l) → ∀ e, P e)
    (hrule : ∀ id n r, P (.ruleRef id n) → E1.findRule n = some r → P r.expr ∧ ruleMode E2 r = ruleMode E1 r)
    (k : Nat) {e : Expr} (he : P e) (s : PState) :
    Follows G (parseExprBody E1 rec k e s) (parseExprBody E2 rec' (k + d) e s) := by
  have same : ∀ {o o' : Outcome}, o' = o → Follows G o o' := fun h _ => h
  have kid := hP e he
  cases e with
  | andCode id blk | notCode id blk =>
    exact same (by dsimp only [parseExprBody, parseAndCode, parseNotCode]; simp only [hl.runCodeBlock, hl.restoreState])
  | stateCode id blk => exact same (by dsimp only [parseExprBody, parseStateCode]; simp only [hl.useState, hl.runCodeBlock])
  | any id => exact same (hl.parseAny s)
  | cls id c => exact same (hl.parseCharClass c s)
  | lit id val ic want => exact same (hl.parseLit _ _ _ _ _)
  | action id blk e1 =>
    refine Follows.bind hG (hw e1 (kid e1 List.mem_cons_self) s) (fun v ok s1 => same ?_)
    simp only [hl.sliceFrom, hl.callBlock, hl.restoreState, hl.addErrAtOpt]
  | and id e1 | not id e1 =>
    exact Follows.bind hG (hw e1 (kid e1 List.mem_cons_self) _) (fun _ _ _ => same (by simp only [hl.restoreState]))
  | labeled id l e1 | zeroOrOne id e1 | recovery id e1 r labels =>
    exact Follows.bind hG (hw e1 (kid e1 List.mem_cons_self) _) (fun _ _ _ _ => rfl)
  | choice id line col alts => exact choice_follows hG hl hw line col alts kid 0 s
  | seq id es => exact seq_follows hG hl hw _ _ es kid s []
  | throw id label => exact throw_follows hG hw (hthrow id label he) label _ s
  | oneOrMore id e1 => exact loop_follows hG hw d h0 (kid e1 List.mem_cons_self) k s []
  | zeroOrMore id e1 =>
    exact Follows.bind hG (loop_follows hG hw d h0 (kid e1 List.mem_cons_self) k s []) (fun _ _ _ _ => rfl)
  | ruleRef id name =>
    dsimp only [parseExprBody, parseRuleRef]
    simp only [hl.findRule, hl.addErr]
    split
    · exact fun _ => rfl
    · cases hf : E1.findRule name with
      | none => exact fun _ => rfl
      | some r => exact ruleWrap_follows hG hl hw d h0 k (hrule id name r he hf).1 (hrule id name r he hf).2 s

end
end

/-! For two environments that agree in the wrappers too, every expression follows. -/

section
variable {G : Outcome → Prop} (hG : ∀ v ok s, G (.done v ok s)) {E1 E2 : Env} (hl : SameEnv E1 E2)
  (hb : BudgetFollows G E1 E2)
include hG hl hb

theorem wrap_follows {rec rec' : Rec} (hrec : ∀ e s, Follows G (rec e s) (rec' e s)) (e : Expr) (s : PState) :
    Follows G (parseExprWrap E1 rec e s) (parseExprWrap E2 rec' e s) := by
  have ht : topIsLR E2 s = topIsLR E1 s := by unfold topIsLR; rw [hl.leftRec]
  rw [parseExprWrap_eq, parseExprWrap_eq, hl.memoize, ht]
  split
  · cases getMemoized s (.expr e.id) with
    | some res => exact Follows.guard_ite (hb.hits (hit s)) (fun _ => rfl)
    | none => exact Follows.bind hG (hrec e s) (fun _ _ _ _ => rfl)
  · exact hrec e s

/-- the recursive knot; the second run may go `d` deeper where the guard rules out `oof` -/
theorem parseExpr_follows (d : Nat) (h0 : G .oof → d = 0) (f : Nat) : ∀ (e : Expr) (s : PState),
    Follows G (parseExpr E1 f e s) (parseExpr E2 (f + d) e s) := by
  induction f with
  | zero => exact fun _ _ hg => by rw [h0 hg]; rfl
  | succ f ih =>
    intro e s
    rw [Nat.succ_add]
    exact Follows.guard_ite (hb.over (bump s))
      (body_follows (P := fun _ => True) hG hl.toSameLeaves (fun e _ => wrap_follows hG hl hb ih e) d h0 (fun _ _ _ _ => trivial)
        (fun _ _ _ _ => trivial) (fun _ _ r _ _ => ⟨trivial, ruleMode_congr hl.leftRec hl.memoize r⟩) f trivial (bump s))

end

/-! ### the whole parse -/

/-- `E2` agrees with `E1` on what `parse` reads outside the interpreter -/
structure SameTop (E1 E2 : Env) : Prop extends SameEnv E1 E2 where
  entry : E2.opts.entry = E1.opts.entry
  recover : E2.opts.recover = E1.opts.recover
  initState : RT.initState E2 = RT.initState E1

theorem SameTop.refl (E : Env) : SameTop E E := ⟨.refl E, rfl, rfl, rfl⟩

namespace SameTop
variable {E1 E2 : Env} (h : SameTop E1 E2)
include h

theorem entryRule : RT.entryRule E2 = RT.entryRule E1 := by
  unfold RT.entryRule entryName; rw [h.rules, h.entry]; simp only [h.findRule]

theorem startState : RT.startState E2 = RT.startState E1 := by
  unfold RT.startState; rw [h.initState, h.read]

theorem finish (o : Outcome) : RT.finish E2 o = RT.finish E1 o := by
  unfold RT.finish; simp only [h.recover, h.addErr, h.addErrAt]

theorem noEntry : RT.noEntry E2 = RT.noEntry E1 := by
  unfold RT.noEntry; rw [h.rules, h.initState, h.addErr]

/-- the second parse, `d` deeper, returns what the first returns if the guard lets the first run of the entry rule through -/
theorem parse {G : Outcome → Prop} (hG : ∀ v ok s, G (.done v ok s)) (hb : BudgetFollows G E1 E2) (d : Nat)
    (h0 : G .oof → d = 0) {f : Nat}
    (hg : ∀ r, RT.entryRule E1 = some r → G (parseRuleWrap E1 (parseExpr E1 f) f r (RT.startState E1))) :
    RT.parse E2 (f + d) = RT.parse E1 f := by
  rw [parse_eq, parse_eq, h.entryRule, h.noEntry, h.startState]
  cases he : RT.entryRule E1 with
  | none => rfl
  | some r =>
    have hw := fun e (_ : True) => wrap_follows hG h.toSameEnv hb (parseExpr_follows hG h.toSameEnv hb d h0 f) e
    exact (congrArg (RT.finish E2) (ruleWrap_follows hG h.toSameLeaves hw d h0 f trivial
      (ruleMode_congr h.leftRec h.memoize r) _ (hg r he))).trans (h.finish _)

end SameTop

end RT
end PV
