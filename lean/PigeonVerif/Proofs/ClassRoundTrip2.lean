/-
  Round trip of the class parser: sequences of members, and the two round-trip theorems.

  A class as a user writes it (and as a printer of the AST writes it) interleaves class names, characters and ranges:
  `[a-c\p{Lu}_x-z\pN]`. With the repair of finding D36 (fix: a0fd15c) a Unicode class between two members does not disturb the
  range extraction, so the statement holds for every SEQUENCE of members (`Item`) in any order: the model of
  `(*ast.CharClassMatcher).parse` reads the spelling (every character and range bound as `\UXXXXXXXX`, the range operator
  plain, a class as `\p{Name}`) back as the characters in order, the ranges in order and the class names in order
  (`parse_spell2`; `decode_items` follows the decoding loop member by member with the byte-level lemmas of
  `ClassRoundTrip.lean`). `parse_spell` is the case of `spell`, which writes the class names first, then the characters, then
  the ranges: it holds for EVERY descriptor whose characters and range bounds are valid code points (a `-` among them
  included: with the repair of finding D3) and whose class names are ASCII without `}`.
-/
import PigeonVerif.Proofs.ClassRoundTrip
import PigeonVerif.Properties.C03Base

namespace PV
namespace ClassParse

def Item.ok : Item → Prop
  | .cls n => NameOK n
  | .chr c => validRune c = true
  | .rng lo hi => validRune lo = true ∧ validRune hi = true

def spellItem : Item → List Nat
  | .cls n => spellName n
  | .chr c => escU c
  | .rng lo hi => escU lo ++ 45 :: escU hi

def spellItems : List Item → List Nat
  | [] => []
  | it :: its => spellItem it ++ spellItems its

def itemNames : List Item → List (List Rune)
  | [] => []
  | .cls n :: its => n :: itemNames its
  | _ :: its => itemNames its

theorem markLast_snoc : ∀ (init : List (Rune × Bool)) (x : Rune) (b : Bool), markLast (init ++ [(x, b)]) = init ++ [(x, true)]
  | [], _, _ => rfl
  | [_], _, _ => rfl
  | a :: a' :: init, x, b => congrArg (a :: ·) (markLast_snoc (a' :: init) x b)

/-- the loop, started in `d` on the text `bs`, ends in `d'`, in no more turns than `bs` has bytes -/
def Decodes (bs : List Nat) (d d' : Dec) : Prop := ∃ n, n ≤ bs.length ∧ ∀ f, decode (f + n) bs d = d'

theorem Decodes.nil (d : Dec) : Decodes [] d d := ⟨0, Nat.le_refl 0, fun f => decode_nil f d⟩

theorem Decodes.step {b : Nat} {tok rest : List Nat} {d d1 d' : Dec}
    (h1 : ∀ f, decode (f + 1) ((b :: tok) ++ rest) d = decode f rest d1) (h : Decodes rest d1 d') :
    Decodes ((b :: tok) ++ rest) d d' := by
  obtain ⟨n, hn, h⟩ := h
  exact ⟨n + 1, by rw [List.length_append, List.length_cons]; omega, fun f => (h1 (f + n)).trans (h f)⟩

theorem Decodes.run {bs : List Nat} {d d' : Dec} (h : Decodes bs d d') : decode bs.length bs d = d' := by
  obtain ⟨n, hn, h⟩ := h
  rw [← Nat.sub_add_cancel hn]; exact h _

theorem decode_items : ∀ (its : List Item), (∀ it ∈ its, it.ok) → ∀ (d : Dec), markLast d.chars = d.chars →
    ∃ p, Decodes (spellItems its) d
      { chars := d.chars ++ decItems its, classes := d.classes ++ itemNames its, pend := p }
  | [], _, d, _ => ⟨d.pend, by rw [decItems, itemNames, List.append_nil, List.append_nil]; exact .nil d⟩
  | .cls n :: its, hok, d, hl => by
    obtain ⟨p, h⟩ := decode_items its (fun x hx => hok x (.tail _ hx))
      { chars := d.chars, classes := d.classes ++ [n], pend := true } hl
    rw [List.append_assoc] at h
    exact ⟨p, .step (fun f => (decode_name f n (hok _ (.head _)) _ d).trans (by rw [hl])) h⟩
  | .chr c :: its, hok, d, _ => by
    obtain ⟨p, h⟩ := decode_items its (fun x hx => hok x (.tail _ hx))
      { d with chars := d.chars ++ [(c, true)], pend := false } (markLast_snoc _ _ _)
    rw [List.append_assoc] at h
    exact ⟨p, .step (fun f => decode_escU f c _ d (hok _ (.head _))) h⟩
  | .rng lo hi :: its, hok, d, _ => by
    obtain ⟨hlo, hhi⟩ := hok _ (.head _)
    obtain ⟨p, h⟩ := decode_items its (fun x hx => hok x (.tail _ hx))
      { d with chars := d.chars ++ [(lo, true)] ++ [(45, false)] ++ [(hi, true)], pend := false } (markLast_snoc _ _ _)
    refine ⟨p, ?_⟩
    -- three turns; the range operator is the one byte `45`
    show Decodes (escU lo ++ ([45] ++ (escU hi ++ spellItems its))) d _
    refine .step (fun f => decode_escU f lo _ d hlo) (.step (fun f => decode_dash f _ _)
      (.step (fun f => decode_escU f hi _ _ hhi) ?_))
    simpa [decItems, decItem, itemNames, dash] using h

def spell2 (ic inv : Bool) (its : List Item) : List Nat :=
  91 :: ((if inv then [94] else []) ++ spellItems its ++ 93 :: (if ic then [105] else []))

theorem spellItems_head : ∀ (its : List Item) (x : Nat) (rest : List Nat), spellItems its = x :: rest → x = 92
  | it :: its, x, rest, h => by cases it <;> exact (List.cons.inj h).1.symm

/-- **C03 - class round trip, members in any order.** For every sequence of members - Unicode class names, single
    characters, ranges, interleaved in any way - with valid code points and well-formed names, and both flags: the model of
    `(*ast.CharClassMatcher).parse` reads the spelling back as the characters in their order, the ranges in their order and
    the class names in their order. (A `-` among the characters or as a range bound included; a class between two
    members included: with the repairs of findings D3 and D36.) -/
theorem parse_spell2 (ic inv : Bool) (its : List Item) (hok : ∀ it ∈ its, it.ok) :
    parse (spell2 ic inv its) =
      some { ignoreCase := ic, inverted := inv, chars := itemChars its, ranges := itemRanges its, classes := itemNames its } := by
  obtain ⟨p, h⟩ := decode_items its hok { chars := [], classes := [] } rfl
  rw [spell2, parse_shape ic inv (spellItems its) (spellItems_head its), h.run]
  cases its with
  | nil => rfl
  | cons it its =>
    have hne : (spellItems (it :: its)).isEmpty = false := by cases it <;> rfl
    simp [hne, extract_items]

theorem canon_spell (ns : List (List Rune)) (cs : List Rune) (rs : List (Rune × Rune)) :
    spellItems (canon ns cs rs) = spellNames ns ++ (spellChars cs ++ spellRanges rs) ∧ itemNames (canon ns cs rs) = ns := by
  induction ns with
  | cons n ns ih => exact ⟨(congrArg (spellName n ++ ·) ih.1).trans (List.append_assoc ..).symm, congrArg (n :: ·) ih.2⟩
  | nil =>
    induction cs with
    | cons c cs ih => exact ⟨congrArg (escU c ++ ·) ih.1, ih.2⟩
    | nil =>
      induction rs with
      | nil => exact ⟨rfl, rfl⟩
      | cons p rs ih => exact ⟨congrArg (escU p.1 ++ 45 :: escU p.2 ++ ·) ih.1, ih.2⟩

/-- **C03 — class round trip, whole function**, members in the canonical order -/
theorem parse_spell (ic inv : Bool) (ns : List (List Rune)) (cs : List Rune) (rs : List (Rune × Rune))
    (hn : ∀ n ∈ ns, NameOK n) (hc : ∀ c ∈ cs, validRune c = true)
    (hr : ∀ p ∈ rs, validRune p.1 = true ∧ validRune p.2 = true) :
    parse (spell ic inv ns cs rs) =
      some { ignoreCase := ic, inverted := inv, chars := cs, ranges := flat rs, classes := ns } := by
  obtain ⟨hs, hnm⟩ := canon_spell ns cs rs
  obtain ⟨_, hcs, hrs⟩ := canon_dec ns cs rs
  have hok : ∀ it ∈ canon ns cs rs, it.ok := by
    simp only [canon, List.forall_mem_append, List.forall_mem_map]
    exact ⟨hn, hc, hr⟩
  have := parse_spell2 ic inv (canon ns cs rs) hok
  rwa [spell2, hs, hnm, hcs, hrs] at this
end ClassParse
end PV
