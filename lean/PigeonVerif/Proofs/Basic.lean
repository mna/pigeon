/-
  Used on every side of the development: what holds of both branches of a conditional, that `lookup` finds an
  entry of its list, and that `sortStrs` (Model/Basic.lean) returns its argument rearranged and in order.
-/
import PigeonVerif.Model.Basic

namespace PV

/-- a conditional that equals `r`: the branch its condition selects does -/
theorem ite_eq_cases {α : Sort _} {c : Prop} [Decidable c] {a b r : α} (h : (if c then a else b) = r) :
    (c ∧ a = r) ∨ (¬c ∧ b = r) :=
  iteInduction (motive := fun x => x = r → (c ∧ a = r) ∨ (¬c ∧ b = r)) (fun hc e => .inl ⟨hc, e⟩) (fun hc e => .inr ⟨hc, e⟩) h

/-- two conditionals on the same condition are related as soon as their branches are -/
theorem ite_rel {α β : Sort _} {R : α → β → Prop} {c : Prop} [Decidable c] {a b : α} {a' b' : β}
    (h1 : c → R a a') (h2 : ¬ c → R b b') : R (if c then a else b) (if c then a' else b') := by
  split
  · next h => exact h1 h
  · next h => exact h2 h

/-- what `lookup` finds is an entry of the list -/
theorem lookup_mem {α : Type} {k : String} {l : List (String × α)} {v : α} (h : lookup k l = some v) : (k, v) ∈ l := by
  induction l with
  | nil => cases h
  | cons p l ih =>
    rcases ite_eq_cases (c := p.1 = k) (a := some p.2) (b := lookup k l) h with ⟨hk, hv⟩ | ⟨_, hl⟩
    · cases hv; cases hk; exact List.mem_cons_self
    · exact List.mem_cons_of_mem _ (ih hl)

theorem insertStr_cons (x y : String) (ys : List String) :
    insertStr x (y :: ys) = if x ≤ y then x :: y :: ys else y :: insertStr x ys := rfl

theorem insertStr_perm (x : String) (l : List String) : (insertStr x l).Perm (x :: l) := by
  induction l with
  | nil => exact List.Perm.refl _
  | cons y ys ih =>
    rw [insertStr_cons]
    split
    · exact List.Perm.refl _
    · exact (List.Perm.cons y ih).trans (List.Perm.swap x y ys)

theorem sortStrs_perm (l : List String) : (sortStrs l).Perm l := by
  induction l with
  | nil => exact List.Perm.refl _
  | cons x xs ih => exact (insertStr_perm x _).trans (List.Perm.cons x ih)

theorem mem_insertStr (x y : String) (l : List String) : y ∈ insertStr x l ↔ y = x ∨ y ∈ l :=
  (insertStr_perm x l).mem_iff.trans List.mem_cons

theorem mem_sortStrs (y : String) (l : List String) : y ∈ sortStrs l ↔ y ∈ l := (sortStrs_perm l).mem_iff

theorem sorted_insertStr (x : String) (l : List String) (h : l.Pairwise (· ≤ ·)) :
    (insertStr x l).Pairwise (· ≤ ·) := by
  induction l with
  | nil => exact List.pairwise_singleton _ _
  | cons z zs ih =>
    rw [insertStr_cons]
    have hz := List.pairwise_cons.mp h
    split
    · next hle =>
      refine List.pairwise_cons.mpr ⟨?_, h⟩
      intro a ha
      rcases List.mem_cons.mp ha with rfl | ha
      · exact hle
      · exact String.le_trans hle (hz.1 a ha)
    · next hnle =>
      have hzx : z ≤ x := by
        rcases String.le_total x z with h | h
        · exact absurd h hnle
        · exact h
      refine List.pairwise_cons.mpr ⟨?_, ih hz.2⟩
      intro a ha
      rcases (mem_insertStr x a zs).mp ha with rfl | ha
      · exact hzx
      · exact hz.1 a ha

theorem sortStrs_sorted (l : List String) : (sortStrs l).Pairwise (· ≤ ·) := by
  induction l with
  | nil => exact .nil
  | cons x xs ih => exact sorted_insertStr x _ ih

end PV
