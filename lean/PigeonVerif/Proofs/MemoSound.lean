/-
  Soundness of the memo table (packrat correctness) for the runtime model.

  Configuration (`MemoCfg`): the standard template without left-recursion support, no expression budget.
  Grammars (`Expr.Ok`, `PureCode`): node identifiers are unique and name their rule, no throw/recover, code blocks
  are pure functions of text and pos and take no labels (with labels the statement is FALSE: finding D7).

  `sim`: a run with Memoize(true) and a run with Memoize(false), started in related states, end — whenever both end —
  with the same value, the same success flag, at the same position, with the same code-block errors up to
  repetitions of an error already reported (`ErrEq`: equal after `dedupe`, which is what `parse` returns).

  The proof: `Sim2` (two runs side by side) is instantiated twice.
    * `loc` (both runs un-memoized): what an evaluation returns, where it ends and which errors it appends depend only
      on the position and the innermost rule of the state it starts in.
    * `sim` (memoized / un-memoized) with the invariant `MV`: every entry of the memo table is what the un-memoized
      parser computes for that expression (a rule's entry: for the rule's expression, evaluated inside the rule) at that
      offset, from any state, and the errors it would append are already in the error list. On a miss the new entry is
      valid by `loc` and fuel monotonicity; on a hit the un-memoized run re-evaluates and, by validity, arrives where
      the entry says.
-/
import PigeonVerif.Proofs.Sim2
import PigeonVerif.Properties.C11Base
import PigeonVerif.Proofs.FuelMono

namespace PV

/-! ### `dedupe` -/

/-- the two error lists are reported as the same list (`parse` returns `dedupe errs`) -/
def ErrEq (a b : List String) : Prop := dedupe a = dedupe b

theorem ErrEq.refl (a : List String) : ErrEq a a := rfl

theorem ErrEq.mem {a b : List String} (h : ErrEq a b) (x : String) : x ∈ a ↔ x ∈ b := by
  rw [← C11_dedupe_mem a x, ← C11_dedupe_mem b x, h]

theorem ErrEq.snoc {a b : List String} (h : ErrEq a b) (m : String) : ErrEq (a ++ [m]) (b ++ [m]) := by
  unfold ErrEq
  rw [dedupe_snoc, dedupe_snoc, h]
  simp only [h.mem m]

theorem ErrEq.absorb {a : List String} (A : List String) : ∀ b : List String, ErrEq a b → (∀ x ∈ A, x ∈ b) → ErrEq a (b ++ A) := by
  induction A with
  | nil => exact fun b h _ => by rw [List.append_nil]; exact h
  | cons x A ih =>
    intro b h hA
    have h1 : ErrEq a (b ++ [x]) := by
      unfold ErrEq; rw [dedupe_snoc, if_pos (hA x List.mem_cons_self), List.append_nil]; exact h
    rw [← List.singleton_append, ← List.append_assoc]
    exact ih (b ++ [x]) h1 fun y hy => List.mem_append_left _ (hA y (List.mem_cons_of_mem _ hy))

theorem ErrEq.isEmpty {a b : List String} (h : ErrEq a b) : a.isEmpty = b.isEmpty := by
  rw [Bool.eq_iff_iff, List.isEmpty_iff, List.isEmpty_iff, List.eq_nil_iff_forall_not_mem, List.eq_nil_iff_forall_not_mem]
  exact forall_congr' fun x => not_congr (h.mem x)

namespace RT

/-! ### locality of the un-memoized parser -/

/-- same position, same innermost rule; the error lists are `e1`, `e2` followed by the same errors -/
def LRel (E : Env) (e1 e2 : List String) : SRel E :=
  .ofErrs E (fun ea _ eb => ∃ A, ea = e1 ++ A ∧ eb = e2 ++ A)
    fun m ⟨A, h1, h2⟩ => ⟨A ++ [m], by rw [h1, List.append_assoc], by rw [h2, List.append_assoc]⟩

theorem LRel_iff {E : Env} {e1 e2 : List String} {a b : PState} :
    (LRel E e1 e2).rel a b ↔ (a.pt = b.pt ∧ a.rstack.head? = b.rstack.head? ∧ Reach E.input a.pt ∧
      ∃ A, a.errs = e1 ++ A ∧ b.errs = e2 ++ A) := Iff.rfl

section
variable {E : Env} {own : Nat → Option String} {node : Nat → Option Expr} {isPred : Nat → Bool}

theorem ruleWrap_nomemo (hc : MemoCfg E) (rec : Expr → PState → Outcome) (k : Nat) :
    parseRuleWrap (setMemo E false) rec k = parseRule (setMemo E false) rec :=
  funext fun r => funext fun s => by rw [parseRuleWrap_eq, ruleMode_nolr (E := setMemo E false) hc.nolr]; rfl

theorem ruleWrap_memo (hc : MemoCfg E) (rec : Expr → PState → Outcome) (k : Nat) (r : Rule) (s : PState) :
    parseRuleWrap (setMemo E true) rec k r s = parseRuleMemoize (setMemo E true) rec r s := by
  rw [parseRuleWrap_eq, ruleMode_nolr (E := setMemo E true) hc.nolr, memoize_of (E := setMemo E true) hc.noopt rfl]; rfl

theorem wrap_nomemo (rec : Expr → PState → Outcome) : parseExprWrap (setMemo E false) rec = rec :=
  funext fun e => funext fun s => wrap_eq (E := setMemo E false) rfl e s

variable (hc : MemoCfg E) (hp : PureCode E isPred)
  (hG : ∀ n r, E.findRule n = some r → r.expr.Ok own node isPred n)
include hc hp hG

/-- **Locality.** Two un-memoized evaluations of the same expression from states with the same position and the
    same innermost rule return the same value and success flag, end at the same position and append the same errors. -/
theorem loc (e1 e2 : List String) (f : Nat) :
    WrapRel (LRel E e1 e2) own node isPred (parseExpr (setMemo E false) f) (parseExpr (setMemo E false) f) := by
  induction f with
  | zero => exact fun _ _ _ _ _ _ _ _ _ _ _ => Or.inl rfl
  | succ f ih =>
    rw [← wrap_nomemo (E := E) (parseExpr (setMemo E false) f)] at ih
    exact step_rel hc hp ih f f (Nat.le_refl f) (by rw [ruleWrap_nomemo hc]; exact rule_rel ih hG)

/-- ... read off an evaluation that returned: from any state at the same position in the same rule the evaluation returns
    the same, ends at the same position of the reader and appends the same errors -/
theorem loc_done (f : Nat) {e : Expr} {rn : String} {r : Rule} (he : e.Ok own node isPred rn) (hf : E.findRule rn = some r)
    {t1 t2 : PState} (hpt : t1.pt = t2.pt) (hreach : Reach E.input t1.pt) (h1 : t1.rstack.head? = some r)
    (h2 : t2.rstack.head? = some r) {v : Val} {ok : Bool} {t2' : PState}
    (hr : parseExpr (setMemo E false) f e t2 = .done v ok t2') :
    ∃ t1' A, parseExpr (setMemo E false) f e t1 = .done v ok t1' ∧ t1'.pt = t2'.pt ∧ Reach E.input t1'.pt ∧
      t1'.rstack = t1.rstack ∧ t1'.errs = t1.errs ++ A ∧ t2'.errs = t2.errs ++ A := by
  have hl := loc hc hp hG t1.errs t2.errs f (e := e)
    (.refl (LRel_iff.mpr ⟨hpt, h1.trans h2.symm, hreach, [], by simp, by simp⟩)) he hf h1
  rw [hr] at hl
  rcases hl.cases with hl | ⟨_, _, t1', _, e1, e2, hrel, hrs, _⟩ | ⟨_, _, _, _, e2, _⟩
  · cases hl
  · cases e2
    obtain ⟨l1, _, l3, A, hA1, hA2⟩ := LRel_iff.mp hrel
    exact ⟨t1', A, e1, l1, l3, hrs, hA1, hA2⟩
  · cases e2

end

/-! ### validity of the memo table -/

section valid
variable (E : Env) (own : Nat → Option String) (node : Nat → Option Expr)

/-- what the un-memoized parser does where the memoized one answers `res` from the table -/
def NOut (errs : List String) (res : MemoVal) (t : PState) (o : Outcome) : Prop :=
  o = .oof ∨ ∃ t', o = .done res.v res.b t' ∧ t'.pt = res.end ∧ t'.rstack = t.rstack ∧ Reach E.input t'.pt ∧
    ∃ A, t'.errs = t.errs ++ A ∧ ∀ x ∈ A, x ∈ errs

/-- `res` is what the un-memoized parser computes for `e` inside the rule `r` at the offset `off`, from any state and at
    any depth, and the errors that evaluation appends are all in `errs` already -/
def Answers (errs : List String) (off : Nat) (res : MemoVal) (e : Expr) (r : Rule) : Prop :=
  ∀ f t, Reach E.input t.pt → t.pt.pos.off = off → t.rstack.head? = some r →
    NOut E errs res t (parseExpr (setMemo E false) f e t)

/-- a memo entry answers for its expression, or for the expression of its rule evaluated inside the rule -/
def Valid (errs : List String) (ent : (Nat × MemoKey) × MemoVal) : Prop :=
  match ent.1.2 with
  | .expr id => ∀ e rn r, node id = some e → own id = some rn → E.findRule rn = some r → Answers E errs ent.1.1 ent.2 e r
  | .rule name => ∀ r, E.findRule name = some r → Answers E errs ent.1.1 ent.2 r.expr r

def MV (s : PState) : Prop := ∀ ent ∈ s.memo, Valid E own node s.errs ent

variable {E own node}

theorem Answers.mono {errs errs' : List String} {off : Nat} {res : MemoVal} {e : Expr} {r : Rule}
    (h : Answers E errs off res e r) (hs : ∀ x ∈ errs, x ∈ errs') : Answers E errs' off res e r := by
  intro f t h1 h2 h3
  rcases h f t h1 h2 h3 with h | ⟨t', h1, h2, h3, h4, A, h5, h6⟩
  · exact Or.inl h
  · exact Or.inr ⟨t', h1, h2, h3, h4, A, h5, fun x hx => hs x (h6 x hx)⟩

theorem Valid.mono {errs errs' : List String} {ent : (Nat × MemoKey) × MemoVal}
    (h : Valid E own node errs ent) (hs : ∀ x ∈ errs, x ∈ errs') : Valid E own node errs' ent := by
  unfold Valid at h ⊢
  split
  · next hk => rw [hk] at h; exact fun e rn r h1 h2 h3 => (h e rn r h1 h2 h3).mono hs
  · next hk => rw [hk] at h; exact fun r h1 => (h r h1).mono hs

theorem MV.congr {s s' : PState} (h : MV E own node s) (h1 : s'.memo = s.memo) (h2 : s'.errs = s.errs) : MV E own node s' := by
  unfold MV at h ⊢; rw [h1, h2]; exact h

/-- the un-memoized rule invocation, given what its expression does inside the rule -/
theorem NOut.rule {errs : List String} {res : MemoVal} {t : PState} {f : Nat} {r : Rule}
    (h : NOut E errs res (pushV { t with rstack := r :: t.rstack })
      (parseExpr (setMemo E false) f r.expr (pushV { t with rstack := r :: t.rstack }))) :
    NOut E errs res t (parseRule (setMemo E false) (parseExpr (setMemo E false) f) r t) := by
  rw [parseRule_eq, wrap_nomemo]
  rcases h with h | ⟨t', h, h2, h3, h4, A, h5, h6⟩
  · rw [h]; exact Or.inl rfl
  · rw [h]; exact Or.inr ⟨_, rfl, h2, congrArg List.tail h3, h4, A, h5, h6⟩

end valid

/-- memoized run on the left, un-memoized run on the right -/
def MRel (E : Env) (own : Nat → Option String) (node : Nat → Option Expr) : SRel E :=
  .ofErrs E (fun ea mt eb => ErrEq ea eb ∧ ∀ ent ∈ mt, Valid E own node ea ent)
    fun m h => ⟨h.1.snoc m, fun ent hent => (h.2 ent hent).mono fun _ hx => List.mem_append_left _ hx⟩

theorem MRel_iff {E : Env} {own : Nat → Option String} {node : Nat → Option Expr} {a b : PState} :
    (MRel E own node).rel a b ↔ (a.pt = b.pt ∧ a.rstack.head? = b.rstack.head? ∧ Reach E.input a.pt ∧
      ErrEq a.errs b.errs ∧ MV E own node a) := Iff.rfl

/-! ### the simulation -/

section sim
variable {E : Env} {own : Nat → Option String} {node : Nat → Option Expr} {isPred : Nat → Bool}

/-- one memo level, of the expressions or of the rules: the entry under `key` if there is one (`a1` is `a`, or `a` with
    the hit counted), else what `o` returns, recorded -/
def memoLevel (key : MemoKey) (a a1 : PState) (o : Outcome) : Outcome :=
  match getMemoized a key with
  | some res => .done res.v res.b (restore a1 res.end)
  | none => o.bind fun v ok s1 => .done v ok (setMemoized s1 a.pt key { v := v, b := ok, «end» := s1.pt })

theorem wrapM_eq (hc : MemoCfg E) (recM : Expr → PState → Outcome) (e : Expr) (a : PState) :
    parseExprWrap (setMemo E true) recM e a = memoLevel (.expr e.id) a (hit a) (recM e a) := by
  have ht : topIsLR (setMemo E true) a = false := by
    show (E.flags.leftRec && _) = false
    rw [hc.nolr]; rfl
  have hb : hitsOverBudget (setMemo E true) (hit a) = false := by
    show (match E.opts.maxExpr with | some n => _ | none => false) = false
    rw [hc.nobudget]
  rw [parseExprWrap_eq, memoize_of (E := setMemo E true) hc.noopt rfl, ht, hb]
  unfold memoLevel
  cases getMemoized a (.expr e.id) <;> rfl

/-- a run `oM` memoized under `key`, against the bare run `oN`. On a hit the un-memoized run re-evaluates and, the entry
    being valid, arrives where the entry says; on a miss the new entry has to be valid. -/
theorem memo_sim {s1 s2 a b : PState} {key : MemoKey} {oM oN : Outcome} (hab : (MRel E own node).relAt s1 s2 a b)
    (hit : ∀ res, Valid E own node a.errs ((a.pt.pos.off, key), res) → NOut E a.errs res b oN)
    (miss : ORel (MRel E own node) s1 s2 oM oN)
    (new : ∀ v ok b' errs, oN = .done v ok b' → (∀ x ∈ b'.errs, x ∈ errs) →
      Valid E own node errs ((b.pt.pos.off, key), { v := v, b := ok, «end» := b'.pt }))
    (a1 : PState) (ha1 : a1.pt = a.pt) (hr1 : a1.rstack = a.rstack) (he1 : a1.errs = a.errs) (hm1 : a1.memo = a.memo) :
    ORel (MRel E own node) s1 s2 (memoLevel key a a1 oM) oN := by
  obtain ⟨h1, h2, h3, h4, h5⟩ := MRel_iff.mp hab.1
  unfold memoLevel
  cases hg : getMemoized a key with
  | some res =>
    rcases hit res (h5 _ (getMemoized_mem hg)) with ho | ⟨t', rfl, hpt', hrs, hreach', A, hA, hsub⟩
    · exact Or.inl ho
    have hend : Reach E.input res.end := hpt' ▸ hreach'
    have hpt : (restore a1 res.end).pt = res.end := restore_pt (E := E) a1 res.end (by rw [ha1]; exact h3) hend
    refine ORel.done _ _ ⟨MRel_iff.mpr ⟨hpt.trans hpt'.symm, ?_, by rw [hpt]; exact hend, ?_, ?_⟩, by simp [hr1, hab.2.1],
      hrs.trans hab.2.2⟩
    · rw [show (restore a1 res.end).rstack = a.rstack by simp [hr1], hrs]; exact h2
    · rw [show (restore a1 res.end).errs = a.errs by simp [he1], hA]
      exact h4.absorb A b.errs (fun x hx => (h4.mem x).mp (hsub x hx))
    · exact h5.congr (by simp [hm1]) (by simp [he1])
  | none =>
    rcases miss.cases with h0 | ⟨v, ok, a', b', rfl, rfl, hr, ha, hb⟩ | ⟨p, a', b', rfl, rfl, hr⟩
    · exact Or.inl h0
    · obtain ⟨r1, r2, r3, r4, r5⟩ := MRel_iff.mp hr
      exact ORel.done _ _ ⟨MRel_iff.mpr ⟨r1, r2, r3, r4, List.forall_mem_cons.mpr
        ⟨h1 ▸ r1 ▸ new v ok b' a'.errs rfl fun x hx => (r4.mem x).mpr hx, r5⟩⟩, ha, hb⟩
    · exact ORel.panic p hr

theorem start_rel : (MRel E own node).rel (startState (setMemo E true)) (startState (setMemo E false)) := by
  -- `read` does not look at `Memoize`: both are the same state
  have h : startState (setMemo E true) = startState (setMemo E false) := by
    unfold startState; rw [read_eq, read_eq]; rfl
  obtain ⟨errs, h2⟩ := startState_fields (setMemo E false)
  rw [h, h2]
  exact MRel_iff.mpr ⟨rfl, rfl, Reach.first E.input, ErrEq.refl _, fun _ hent => nomatch hent⟩

variable (hc : MemoCfg E) (hp : PureCode E isPred)
  (hG : ∀ n r, E.findRule n = some r → r.expr.Ok own node isPred n)
include hc hp hG

/-- a miss: what the un-memoized run returned from `b` is what it returns from any state at that position in that
    rule (locality), at any depth at which it returns (the result does not depend on the fuel) -/
theorem miss_answers {errs : List String} {e : Expr} {rn : String} {r : Rule} (he : e.Ok own node isPred rn)
    (hf : E.findRule rn = some r) {f : Nat} {b b' : PState} {v : Val} {ok : Bool} (hbr : Reach E.input b.pt)
    (hbh : b.rstack.head? = some r) (hN : parseExpr (setMemo E false) f e b = .done v ok b')
    (herrs : ∀ x ∈ b'.errs, x ∈ errs) : Answers E errs b.pt.pos.off { v := v, b := ok, «end» := b'.pt } e r := by
  intro f' t hrt hoff hhd
  by_cases hoof : parseExpr (setMemo E false) f' e t = .oof
  · exact Or.inl hoof
  · have hN' : parseExpr (setMemo E false) (max f f') e b = .done v ok b' := by
      rw [parseExpr_mono (setMemo E false) (Nat.le_max_left f f') e b (by rw [hN]; simp), hN]
    obtain ⟨t', A, h1, h2, h3, h4, h5, h6⟩ :=
      loc_done hc hp hG (max f f') he hf (Reach.unique hrt hbr hoff) hrt hhd hbh hN'
    rw [parseExpr_mono (setMemo E false) (Nat.le_max_right f f') e t hoof] at h1
    exact Or.inr ⟨t', h1, h2, h4, h3, A, h5, fun x hx => herrs x (h6 ▸ List.mem_append_right _ hx)⟩

theorem wrap_sim {recM : Expr → PState → Outcome} (f : Nat)
    (hrec : WrapRel (MRel E own node) own node isPred recM (parseExpr (setMemo E false) f)) :
    WrapRel (MRel E own node) own node isPred (parseExprWrap (setMemo E true) recM)
      (parseExprWrap (setMemo E false) (parseExpr (setMemo E false) f)) := by
  intro e a b rn r s1 s2 h he hf hh
  rw [wrap_nomemo, wrapM_eq hc]
  obtain ⟨hown, hnode⟩ := he.keyed
  obtain ⟨h1, _, h3, _⟩ := MRel_iff.mp h.1
  have hbr : Reach E.input b.pt := h1 ▸ h3
  have hbh : b.rstack.head? = some r := by rw [← (MRel E own node).hd h.1, h.2.1]; exact hh
  refine memo_sim (key := .expr e.id) h (fun res hv => hv e rn r hnode hown hf f b hbr (by rw [← h1]) hbh)
    (hrec h he hf hh) (fun v ok b' errs hN herrs e' rn' r' hn' ho' hf' => ?_) (hit a) rfl rfl rfl rfl
  obtain rfl : e = e' := Option.some.inj (hnode.symm.trans hn')
  obtain rfl : rn = rn' := Option.some.inj (hown.symm.trans ho')
  obtain rfl : r = r' := Option.some.inj (hf.symm.trans hf')
  exact miss_answers hc hp hG he hf hbr hbh hN herrs

theorem rule_sim {recM : Expr → PState → Outcome} (f k1 k2 : Nat)
    (hw : WrapRel (MRel E own node) own node isPred (parseExprWrap (setMemo E true) recM)
      (parseExprWrap (setMemo E false) (parseExpr (setMemo E false) f))) :
    RuleRel (MRel E own node) (parseRuleWrap (setMemo E true) recM k1)
      (parseRuleWrap (setMemo E false) (parseExpr (setMemo E false) f) k2) := by
  intro n r a b s1 s2 h hfr
  rw [ruleWrap_memo hc, ruleWrap_nomemo hc]
  obtain rfl : r.name = n := findRule_name hfr
  obtain ⟨h1, _, h3, _⟩ := MRel_iff.mp h.1
  have hbr : Reach E.input b.pt := h1 ▸ h3
  refine memo_sim (key := .rule r.name) h
    (fun res hv => NOut.rule (hv r hfr f _ hbr (congrArg (·.pos.off) h1.symm) rfl))
    (rule_rel hw hG h hfr) (fun v ok b' errs hN herrs r' hf' => ?_) a rfl rfl rfl rfl
  obtain rfl : r = r' := Option.some.inj (hfr.symm.trans hf')
  rw [parseRule_eq, wrap_nomemo] at hN
  obtain ⟨v1, ok1, c, hc1, hc2⟩ := Outcome.bind_eq_done hN
  cases hc2
  exact miss_answers hc hp hG (hG _ r hfr) hfr (b := pushV { b with rstack := r :: b.rstack }) (b' := c) hbr rfl hc1 herrs

/-- **The simulation.** Memoized evaluation on the left, un-memoized on the right: whenever the un-memoized run ends
    at depth `f`, the memoized run ends at every depth `f + d`, and alike. -/
theorem sim (f d : Nat) :
    WrapRel (MRel E own node) own node isPred (parseExpr (setMemo E true) (f + d)) (parseExpr (setMemo E false) f) := by
  induction f with
  | zero => exact fun _ _ _ _ _ _ _ _ _ _ _ => Or.inl rfl
  | succ f ih =>
    rw [Nat.succ_add]
    have hw := wrap_sim hc hp hG f ih
    exact step_rel hc hp hw _ f (Nat.le_add_right f d) (rule_sim hc hp hG f _ f hw)

end sim

/-- what the memoized `Parse` returns (`x`), by what the un-memoized one returned: the same value and the same errors —
    except that when both parses fail without any code-block error, each reports its own synthesized farthest-failure
    message (those may differ: the memoized parser does not re-visit the failures behind a memo hit; C06 does not claim
    them equal) —, or the same panic; nothing is said while the un-memoized parse has not returned -/
def FinalRel (x : Final) : Final → Prop
  | .oof => True
  | .ret v errs2 _ => ∃ errs1 s1, x = .ret v errs1 s1 ∧ (errs1 = errs2 ∨ ∃ m1 m2, errs1 = [m1] ∧ errs2 = [m2] ∧ v = .nil)
  | .panic p _ => ∃ s1, x = .panic p s1

section top
variable {E : Env} {own : Nat → Option String} {node : Nat → Option Expr} {isPred : Nat → Bool}

theorem finish_rel {s1 s2 : PState} {o1 o2 : Outcome} (h : ORel (MRel E own node) s1 s2 o1 o2) :
    FinalRel (finish (setMemo E true) o1) (finish (setMemo E false) o2) := by
  rcases h.cases with rfl | ⟨v, ok, a, b, rfl, rfl, hr, _, _⟩ | ⟨p, a, b, rfl, rfl, hr⟩
  · trivial
  · have r4 := (MRel_iff.mp hr).2.2.2.1
    unfold finish
    cases ok with
    | true => exact ⟨_, _, rfl, Or.inl r4⟩
    | false =>
      simp only [Bool.not_false, if_true]
      rw [← r4.isEmpty]
      cases hem : a.errs.isEmpty with
      | false => exact ⟨_, _, rfl, Or.inl r4⟩
      | true =>
        exact ⟨_, _, rfl, Or.inr ⟨_, _, dedupe_addErrAt_nil _ (List.isEmpty_iff.mp hem) _ _,
          dedupe_addErrAt_nil _ (List.isEmpty_iff.mp (r4.isEmpty ▸ hem)) _ _, rfl⟩⟩
  · unfold finish
    show FinalRel (if E.opts.recover = true then _ else _) (if E.opts.recover = true then _ else _)
    cases E.opts.recover with
    | false => exact ⟨_, rfl⟩
    | true => exact ⟨_, _, rfl, Or.inl (MRel_iff.mp ((SRel.relAt.refl hr).addErr _).1).2.2.2.1⟩

variable (hc : MemoCfg E) (hp : PureCode E isPred)
  (hG : ∀ n r, E.findRule n = some r → r.expr.Ok own node isPred n)
include hc hp hG

/-- **Memoize does not change what `Parse` returns** (for the grammars and configuration described at the top): whenever
    the un-memoized parse ends at depth `fN`, the memoized parse ends at every depth `fM ≥ fN` and returns the same. -/
theorem memo_sound (fM fN : Nat) (hle : fN ≤ fM) :
    FinalRel (parse (setMemo E true) fM) (parse (setMemo E false) fN) := by
  have he : ∀ m, entryRule (setMemo E m) = entryRule E := fun _ => rfl
  rw [parse_eq, parse_eq, he, he]
  cases hr : entryRule E with
  | none => exact ⟨_, _, rfl, Or.inl rfl⟩
  | some r =>
    obtain ⟨n, hfr⟩ := entryRule_find hr
    obtain ⟨d, rfl⟩ := Nat.exists_eq_add_of_le hle
    exact finish_rel (rule_sim hc hp hG fN _ fN (wrap_sim hc hp hG fN (sim hc hp hG fN d)) (.refl start_rel) hfr)

end top

end RT
end PV
