/-
  The frame theorem `parseExpr_frame`. The traversal carries `Framed E s0 b s` - the run started in `s0` has got to `s`,
  and with `b = false` has consumed nothing so far - through every construct: a call from `s` composes with it
  (`FrameInv.after`), the state operations and the brackets keep it, a restore on failure resets `b`.
-/
import PigeonVerif.Proofs.Frame
import PigeonVerif.Proofs.Basic

namespace PV
namespace RT

/-! ### the relation `Stk`; positions of the reader and entries of the memo table -/

theorem Stk.refl (E : Env) (s : PState) : Stk E s s :=
  ⟨Nat.le_refl _, rfl, rfl, rfl, rfl, rfl, fun _ => rfl, fun _ _ h => h, fun h => h, fun h => h⟩

theorem Stk.trans {E : Env} {a b c : PState} (h1 : Stk E a b) (h2 : Stk E b c) : Stk E a c :=
  ⟨Nat.le_trans h1.cnt h2.cnt, h2.vtail.trans h1.vtail, h2.vlen.trans h1.vlen,
   h2.rstack.trans h1.rstack, h2.recov.trans h1.recov, h2.invert.trans h1.invert,
   fun h => (h2.noState h).trans (h1.noState h), fun n hn h => h2.bnd n hn (h1.bnd n hn h), fun h => h2.ginv (h1.ginv h),
   fun h => h2.ptinv (h1.ptinv h)⟩

theorem Stk.panic_trans {E : Env} {a b c : PState} (h1 : Stk E a b) (h2 : PanicPost E b c) :
    PanicPost E a c :=
  ⟨Nat.le_trans h1.cnt h2.cnt, fun n hn h => h2.bnd n hn (h1.bnd n hn h)⟩

theorem Stk.toPanic {E : Env} {a b : PState} (h : Stk E a b) : PanicPost E a b :=
  ⟨h.cnt, fun n hn hb => Nat.le_succ_of_le (h.bnd n hn hb)⟩

/-- `c` agrees with `b` on the frame fields; its position invariant is argued separately -/
theorem Stk.extend {E : Env} {a b c : PState} (h : Stk E a b) (h1 : c.exprCnt = b.exprCnt)
    (h2 : c.vstack = b.vstack) (h3 : c.rstack = b.rstack) (h4 : c.recoveryStack = b.recoveryStack)
    (h5 : c.maxFailInvert = b.maxFailInvert) (h6 : c.state = b.state) (h7 : c.global = b.global)
    (h8 : c.trace = b.trace) (hp : PtInv E a → PtInv E b → PtInv E c) : Stk E a c :=
  ⟨h1 ▸ h.cnt, h2 ▸ h.vtail, h2 ▸ h.vlen, h3 ▸ h.rstack, h4 ▸ h.recov, h5 ▸ h.invert,
   fun hu => h6 ▸ h.noState hu, fun n hn hb => h1 ▸ h.bnd n hn hb,
   fun hg => by have := h.ginv hg; unfold GInv at *; rw [h7, h8]; exact this,
   fun hpa => hp hpa (h.ptinv hpa)⟩

theorem PtInv.congr {E : Env} {s s' : PState} (h : PtInv E s) (h1 : s'.pt = s.pt) (h2 : s'.memo = s.memo) :
    PtInv E s' := by
  unfold PtInv at *; rw [h1, h2]; exact h

@[simp] theorem restore_memo' (s : PState) (pt : Savepoint) : (restore s pt).memo = s.memo := restore.memo

theorem MemoOK.congr {s s' : PState} (h : s'.memo = s.memo) (hm : MemoOK s) : MemoOK s' := by
  unfold MemoOK at *; rw [h]; exact hm

theorem MemoOK.set {s : PState} {pt : Savepoint} {k : MemoKey} {t : MemoVal} (hm : MemoOK s)
    (h : t.b = false → t.end.pos.off = pt.pos.off) : MemoOK (setMemoized s pt k t) := by
  intro e he
  rcases List.mem_cons.1 he with rfl | he
  · exact h
  · exact hm e he

theorem PtInv.read' {E : Env} {s : PState} (h : PtInv E s) (hg : ¬ (s.pt.rn = runeError ∧ s.pt.w = 0)) :
    Reach E.input (read E s).pt := by
  rw [read_pt]
  exact h.1.next fun hw => hg ⟨h.1.w0 hw, hw⟩

section
variable {E : Env} {rec : Expr → PState → Outcome}

theorem Stk.restoreState (E : Env) (s : PState) (st : Store) : Stk E s (restoreState E s st) := by
  rw [restoreState_writes]
  exact { Stk.refl E s with noState := fun hu => by simp [RT.restoreState, hu] }

theorem restoreState_state_of {s1 : PState} {st0 : Store} (hns : E.useState = false → s1.state = st0) :
    (RT.restoreState E s1 st0).state = st0 := by
  unfold RT.restoreState
  cases hu : E.useState with
  | true => rfl
  | false => exact hns hu

theorem restoreState_state {s0 s1 : PState} (h : Stk E s0 s1) :
    (RT.restoreState E s1 s0.state).state = s0.state :=
  restoreState_state_of h.noState

/-- after a code block: the frame is untouched except for the stores -/
theorem Stk.callBlock (blk : Nat) (s : PState) : Stk E s (callBlock E blk s).2 :=
  { Stk.refl E s with noState := fun hu => by unfold RT.callBlock; rw [hu]; rfl, ginv := fun _ => rfl }

@[simp] theorem pushV_vstack (s : PState) : (pushV s).vstack = [] :: s.vstack := rfl
@[simp] theorem popV_vstack (s : PState) : (popV s).vstack = s.vstack.tail := rfl

/-! ### `Framed E s0 b s` as the invariant of a run from `s0` that has got to `s`: with `b = false` nothing has been
    consumed so far. The state operations keep it. -/

theorem Framed.refl {s : PState} (hm : MemoOK s) (ok : Bool) : Framed E s ok s :=
  ⟨Stk.refl E s, fun _ => rfl, fun _ => rfl, hm⟩

/-- nothing has been consumed if neither part consumed anything -/
theorem Framed.trans {a b c : PState} {x y : Bool} (h1 : Framed E a x b) (h2 : Framed E b y c) : Framed E a (x || y) c :=
  ⟨h1.stk.trans h2.stk, fun h => (h2.failState (Bool.or_eq_false_iff.1 h).2).trans (h1.failState (Bool.or_eq_false_iff.1 h).1),
   fun h => (h2.failOff (Bool.or_eq_false_iff.1 h).2).trans (h1.failOff (Bool.or_eq_false_iff.1 h).1), h2.memo⟩

theorem Framed.ok {s0 s : PState} {b : Bool} (h : Framed E s0 b s) : Framed E s0 true s :=
  ⟨h.stk, nofun, nofun, h.memo⟩

/-- with the store and the offset of `s0`, nothing has been consumed -/
theorem Framed.unmoved {s0 s : PState} {b : Bool} (h : Framed E s0 b s) (hst : s.state = s0.state)
    (hoff : s.pt.pos.off = s0.pt.pos.off) (ok : Bool) : Framed E s0 ok s :=
  ⟨h.stk, fun _ => hst, fun _ => hoff, h.memo⟩

/-- one more step that leaves the table as it is -/
theorem Framed.step {s0 s s' : PState} {b : Bool} (h : Framed E s0 b s) (hs : Stk E s s') (hm : s'.memo = s.memo) :
    Framed E s0 true s' :=
  ⟨h.stk.trans hs, nofun, nofun, h.memo.congr hm⟩

/-- writes to the fields the relation does not read -/
theorem Framed.others {a b : PState} {ok : Bool} (h : Framed E a ok b) (errs : List String)
    (cc : List ((String × Option Nat) × Nat)) (mp : Pos) (me : List String) (att : List Attempt) (hits : Nat) (cp : Pos)
    (ct : List Nat) :
    Framed E a ok { b with errs := errs, choiceCnt := cc, maxFailPos := mp, maxFailExpected := me, attempts := att,
                           memoHits := hits, curPos := cp, curText := ct } :=
  ⟨h.stk.extend rfl rfl rfl rfl rfl rfl rfl rfl fun _ hb => hb, h.failState, h.failOff, h.memo⟩

theorem Framed.failAt {a b : PState} {ok : Bool} (h : Framed E a ok b) (f : Bool) (p : Pos) (w : String) :
    Framed E a ok (RT.failAt b f p w) := by
  rw [failAt_writes]; exact h.others ..

theorem Framed.addErrAtOpt {a b : PState} {ok : Bool} (h : Framed E a ok b) (o : Option String) (p : Pos) :
    Framed E a ok (RT.addErrAtOpt E b o p) := by
  rw [addErrAtOpt_writes]; exact h.others ..

theorem Framed.setLabel {a b : PState} {ok : Bool} (h : Framed E a ok b) (l : String) (v : Val) :
    Framed E a ok (RT.setLabel b l v) := by
  unfold RT.setLabel; split
  · exact h
  · next hv =>
    exact { h with stk := { h.stk with vtail := (congrArg List.tail hv).symm.trans h.stk.vtail,
                                       vlen := (congrArg List.length hv).symm.trans h.stk.vlen } }

theorem Framed.read {s0 s : PState} {b : Bool} (h : Framed E s0 b s) (hg : ¬ (s.pt.rn = runeError ∧ s.pt.w = 0)) :
    Framed E s0 true (RT.read E s) := by
  rw [read_writes]
  exact h.step ((Stk.refl E s).extend rfl rfl rfl rfl rfl rfl rfl rfl fun _ hb => ⟨hb.read' hg, hb.2⟩) rfl

theorem Framed.restoreState {s0 s : PState} {b : Bool} (h : Framed E s0 b s) (st : Store) :
    Framed E s0 true (RT.restoreState E s st) :=
  h.step (Stk.restoreState E s st) restoreState.memo

/-- a move to a position of the reader -/
theorem Framed.restore {s0 s : PState} {b : Bool} (h : Framed E s0 b s) {pt : Savepoint}
    (hp : PtInv E s0 → Reach E.input pt) : Framed E s0 true (RT.restore s pt) := by
  rw [restore_writes]
  exact ⟨h.stk.extend rfl rfl rfl rfl rfl rfl rfl rfl fun ha hb => ⟨restore_pt_reach s pt hb.1 (hp ha), hb.2⟩,
    nofun, nofun, h.memo⟩

/-- a memo entry that ends at a position of the reader, where it started if it records a failure -/
theorem Framed.withEntry {s0 s : PState} {b : Bool} (h : Framed E s0 b s) {pt : Savepoint} {k : MemoKey} {t : MemoVal}
    (ht : PtInv E s0 → PtInv E s → Reach E.input t.end) (hb : t.b = false → t.end.pos.off = pt.pos.off) :
    Framed E s0 b (RT.setMemoized s pt k t) :=
  ⟨h.stk.extend rfl rfl rfl rfl rfl rfl rfl rfl fun ha hb => ⟨hb.1, fun e he => by
      rcases List.mem_cons.1 he with rfl | he
      · exact ht ha hb
      · exact hb.2 e he⟩,
   h.failState, h.failOff, h.memo.set hb⟩

/-- `&e`, `!e`, a sequence that fails: back to the store and the position of `s0`, whatever happened since -/
theorem Framed.back {s0 s : PState} {b : Bool} (h : Framed E s0 b s) (ok : Bool) :
    Framed E s0 ok (RT.restore (RT.restoreState E s s0.state) s0.pt) :=
  ((h.restoreState _).restore fun hp => hp.1).unmoved (restore.state.trans (restoreState_state h.stk)) (restore_off ..) ok

/-! The brackets of the interpreter. Each enters a sub-expression with one field changed and changes it back on
    the way out; the relation from the changed state gives the relation from the original one. -/

theorem Framed.pushpop {s s1 : PState} {ok : Bool} (h : Framed E (pushV s) ok s1) : Framed E s ok (popV s1) :=
  { h with stk := { h.stk with vtail := congrArg List.tail h.stk.vtail, vlen := congrArg List.length h.stk.vtail } }

/-- the `!` bracket: the parity flipped on the way in is flipped back on the way out -/
theorem Framed.uninvert {s s1 : PState} {ok : Bool} (h : Framed E { s with maxFailInvert := !s.maxFailInvert } ok s1) :
    Framed E s ok { s1 with maxFailInvert := !s1.maxFailInvert } :=
  { h with stk := { h.stk with invert := by rw [h.stk.invert]; exact Bool.not_not _ } }

/-! ### memo hits and memo entries -/

/-- a result answered from the table of `s`, from a state `s1` that still has its store -/
theorem Framed.hit {s s1 : PState} {k : MemoKey} {res : MemoVal} (hm : MemoOK s) (h : getMemoized s k = some res)
    (h1 : Framed E s false s1) : Framed E s res.b (RT.restore s1 res.end) :=
  have h2 := h1.restore fun hp => hp.2 _ (getMemoized_mem h)
  ⟨h2.stk, fun _ => restore.state.trans (h1.failState rfl), fun hb => (restore_off ..).trans (hm _ (getMemoized_mem h) hb),
   h2.memo⟩

theorem Framed.memoized {s s1 : PState} {v : Val} {ok : Bool} {k : MemoKey} (h : Framed E s ok s1) :
    Framed E s ok (setMemoized s1 s.pt k { v := v, b := ok, «end» := s1.pt }) :=
  h.withEntry (fun _ hb => hb.1) h.failOff

theorem Framed.fail_pt {s s1 : PState} (h : Framed E s false s1) (hp : PtInv E s) : s1.pt = s.pt :=
  Reach.unique (h.stk.ptinv hp).1 hp.1 (h.failOff rfl)

abbrev Post (E : Env) (s0 : PState) (o : Outcome) : Prop :=
  o.Sat (fun _ ok s' => Framed E s0 ok s') (fun s' => PanicPost E s0 s')

/-- a call from a state `s` that a run from `s0` has got to -/
theorem FrameInv.after {s0 s : PState} {b : Bool} {o : Outcome} (ho : FrameInv E s o) (h : Framed E s0 b s) :
    o.Sat (fun _ ok s' => Framed E s0 (b || ok) s') (fun s' => PanicPost E s0 s') :=
  Outcome.Sat.mono (ho h.memo) (fun _ _ _ h' => h.trans h') fun _ h' => h.stk.panic_trans h'

/-! ### literals, code blocks -/

theorem lit_frame (s0 : PState) (want : String) (ic : Bool) (rs : List Rune) :
    ∀ (s : PState), Framed E s0 true s → s.state = s0.state → Post E s0 (parseLit E s0.pt want ic rs s) := by
  induction rs with
  | nil => exact fun _ h _ => h.failAt ..
  | cons r rs ih =>
    intro s h hst
    rw [parseLit_cons]
    refine iteInduction (motive := Post E s0)
      (fun _ => ((h.failAt ..).restore fun hp => hp.1).unmoved (restore.state.trans (failAt.state.trans hst)) (restore_off ..) _)
      (fun hc => ih _ (h.read fun hh => hc (by simp [hh.2])) (read.state.trans hst))

/-- a code block panics in the state it leaves, or the continuation runs from a state with the position of `s` -/
theorem runCodeBlock_sat {Q : Val → Bool → PState → Prop} {Qp : PState → Prop} {s : PState} (hm : MemoOK s) (blk : Nat)
    (k : BlockResult → PState → Outcome) (hp : Qp (callBlock E blk s).2)
    (hk : ∀ r s2, Framed E s true s2 → s2.pt = s.pt → (k r s2).Sat Q Qp) :
    (runCodeBlock E blk s k).Sat Q Qp :=
  runCodeBlock_cases (Q := (Outcome.Sat · Q Qp)) (fun _ _ => hp) fun _ =>
    hk _ _ (((Framed.refl hm true).step (Stk.callBlock blk s) rfl).addErrAtOpt ..) addErrOpt.pt

theorem pred_frame {s : PState} (hm : MemoOK s) (blk : Nat) (f : BlockResult → Bool) :
    Post E s (runCodeBlock E blk s fun r s2 => .done .nil (f r) (RT.restoreState E s2 s.state)) :=
  runCodeBlock_sat hm blk _ (Stk.callBlock blk s).toPanic fun _ _ h2 hpt =>
    (h2.restoreState _).unmoved (restoreState_state h2.stk) (congrArg (·.pos.off) (restoreState.pt.trans hpt)) _

/-! ### sub-expressions -/

variable (hrec : ∀ e s, FrameInv E s (rec e s))
include hrec

theorem wrap_frame (e : Expr) (s : PState) : FrameInv E s (parseExprWrap E rec e s) := fun hm =>
  have h1 : Framed E s false (RT.hit s) := (Framed.refl hm false).others ..
  parseExprWrap_cases (Q := Post E s) (hrec e s hm)
    (fun _ _ hres => iteInduction (motive := Post E s) (fun _ => h1.stk.toPanic) (fun _ => Framed.hit hm hres h1))
    (Outcome.Sat.bind (hrec e s hm) fun _ _ _ h => h.memoized)

/-- a sub-expression evaluated on a fresh variable frame -/
theorem wrapV_frame (e : Expr) {s0 s : PState} {b : Bool} (h : Framed E s0 b s) :
    (parseExprWrap E rec e (pushV s)).Sat (fun _ ok s1 => Framed E s0 (b || ok) (popV s1)) (fun s' => PanicPost E s0 s') :=
  Outcome.Sat.mono (wrap_frame hrec e (pushV s) h.memo) (fun _ _ _ h1 => h.trans h1.pushpop)
    fun _ h1 => h.stk.panic_trans ⟨h1.cnt, h1.bnd⟩

/-! ### lists of sub-expressions, loops -/

theorem seq_frame (s0 : PState) (es : List Expr) :
    ∀ (s : PState) (acc : List Val), Framed E s0 true s → Post E s0 (parseSeq E rec s0.pt s0.state es s acc) := by
  induction es with
  | nil => exact fun _ _ h => h
  | cons e es ih =>
    intro s acc h
    rw [parseSeq_cons]
    refine ((wrap_frame hrec e s).after h).bind fun v ok s1 h1 => ?_
    cases ok with
    | true => exact ih s1 _ h1
    | false => exact h1.back false

theorem choice_frame (s0 : PState) (line col : Nat) (alts : List Expr) :
    ∀ (i : Nat) (s : PState), Framed E s0 false s → Post E s0 (parseChoice E rec line col alts i s) := by
  induction alts with
  | nil => exact fun _ _ h => h.others ..
  | cons a alts ih =>
    intro i s h
    rw [parseChoice_cons]
    refine (wrapV_frame hrec a h).bind fun v ok s1 h1 => ?_
    cases ok with
    | true => exact h1.others ..
    | false =>
      rw [h.failState rfl]
      exact ih _ _ ((h1.restoreState _).unmoved (restoreState_state h1.stk)
        ((congrArg (·.pos.off) restoreState.pt).trans (h1.failOff rfl)) false)

theorem loop_frame (s0 : PState) (e : Expr) (k : Nat) :
    ∀ (s : PState) (acc : List Val), Framed E s0 (!acc.isEmpty) s → Post E s0 (parseLoop E rec e k s acc) := by
  induction k with
  | zero => exact fun _ _ _ => trivial
  | succ k ih =>
    intro s acc h
    rw [parseLoop_succ]
    refine (wrapV_frame hrec e h).bind fun v ok s1 h1 => ?_
    cases ok with
    | true => exact ih _ (v :: acc) h1.ok
    | false => cases acc <;> exact h1  -- the flag `!acc.isEmpty || false` is the `ok` of either exit

theorem throw_frame (s0 : PState) (label : String)
    (frames : List (List (String × Expr))) :
    ∀ (s : PState), Framed E s0 false s → Post E s0 (parseThrow E rec label frames s) := by
  induction frames with
  | nil => exact fun _ h => h
  | cons fr frs ih =>
    intro s h
    rw [parseThrow_cons]
    split
    · refine ((wrap_frame hrec _ s).after h).bind fun v ok s1 h1 => ?_
      cases ok with
      | true => exact h1
      | false => exact ih s1 h1
    · exact ih s h

/-! ### rules -/

theorem rule_frame (r : Rule) (s : PState) : FrameInv E s (parseRule E rec r s) := fun hm =>
  Outcome.Sat.bind (wrap_frame hrec r.expr (pushV { s with rstack := r :: s.rstack }) hm)
    (hp := fun _ h => ⟨h.cnt, h.bnd⟩)
    fun _ _ _ h => { h.pushpop with stk := { h.pushpop.stk with rstack := congrArg List.tail h.stk.rstack } }

/-- the seed-growing loop: `last` is a failure in the first round only, and then ends where the loop started -/
theorem leader_frame (r : Rule) (s0 : PState) (k : Nat) :
    ∀ (depth : Nat) (last : MemoVal) (lastErrs : List String) (s : PState), Framed E s0 last.b s →
      (last.b = false → last.end.pos.off = s0.pt.pos.off) → (PtInv E s0 → Reach E.input last.end) →
      Post E s0 (leaderLoop E rec r s0.pt k depth last lastErrs s) := by
  induction k with
  | zero => exact fun _ _ _ _ _ _ _ => trivial
  | succ k ih =>
    intro depth last lastErrs s h hl hlast
    rw [leaderLoop_succ]
    refine ((rule_frame hrec r _).after (h.withEntry (fun hp0 _ => hlast hp0) hl)).bind fun v ok s2 h2 => ?_
    refine iteInduction (motive := Post E s0) (fun _ => ?_) (fun hc => ?_)
    · -- the round is discarded: back to the store before it, the errors and the end of the last result
      have h3 := ((h2.restoreState s.state).others .. :
        Framed E s0 true { RT.restoreState E s2 s.state with errs := lastErrs }).restore hlast
      exact (⟨h3.stk, fun hb => restore.state.trans (by rw [h.failState hb]; exact restoreState_state h2.stk),
        fun hb => (restore_off ..).trans (hl hb), h3.memo⟩ : Framed E s0 last.b _).withEntry (fun hp0 _ => hlast hp0) hl
    · obtain ⟨rfl, _⟩ := growGo hc
      exact ih (depth + 1) _ s2.errs (restore s2 s0.pt) (h2.restore fun hp => hp.1) nofun fun hp0 => (h2.stk.ptinv hp0).1

/-- a leader and a memoized rule answer from the table if they can -/
theorem ruleWrap_frame (k : Nat) (r : Rule) (s : PState) : FrameInv E s (parseRuleWrap E rec k r s) := fun hm => by
  refine parseRuleWrap_of (Q := Post E s) (fun _ => ?_) (fun _ => ?_) (fun _ => rule_frame hrec r s hm)
  · unfold parseRuleLeader
    split
    · next res hres => exact Framed.hit hm hres (.refl hm false)
    · exact leader_frame hrec r s k 0 _ s.errs s (.refl hm false) (fun _ => rfl) fun hp => hp.1
  · unfold parseRuleMemoize
    split
    · next res hres => exact Framed.hit hm hres (.refl hm false)
    · exact Outcome.Sat.bind (rule_frame hrec r s hm) fun _ _ _ h => h.memoized

/-! ### one level of `parseExpr` -/

theorem body_frame (k : Nat) (e : Expr) (s : PState) : FrameInv E s (parseExprBody E rec k e s) := by
  intro hm
  have h0 : Framed E s false s := .refl hm false
  have wV := fun e1 => wrapV_frame hrec e1 h0
  cases e with
  | action id blk e1 =>
    refine ((wrap_frame hrec e1 s).after h0).bind fun v ok s1 h1 => ?_
    cases ok with
    | false => exact h1
    | true =>
      have h2 := (h1.others .. : Framed E s true { s1 with curPos := s.pt.pos, curText := sliceFrom E s1 s.pt }).step
        (Stk.callBlock blk _) rfl
      simp only [if_true]
      split
      · exact h2.stk.toPanic
      · exact (h2.addErrAtOpt ..).restoreState _
  | andCode id blk => exact pred_frame hm blk _
  | notCode id blk => exact pred_frame hm blk (fun r => !r.retB)
  | stateCode id blk =>
    exact iteInduction (motive := Post E s) (fun _ => h0.stk.toPanic)
      (fun _ => runCodeBlock_sat hm blk _ (Stk.callBlock blk s).toPanic fun _ _ h2 _ => h2)
  | and id e1 => exact (wV e1).bind fun _ ok _ h => h.back ok
  | not id e1 =>
    exact Outcome.Sat.bind (wrap_frame hrec e1 { pushV s with maxFailInvert := !s.maxFailInvert } hm)
      (hp := fun _ h => ⟨h.cnt, h.bnd⟩) fun _ ok _ h => h.uninvert.pushpop.back (!ok)
  | any id => exact parseAny_cases (Q := Post E s) (h0.failAt ..) fun hg => (h0.read hg).failAt ..
  | cls id c => exact parseCharClass_cases (Q := Post E s) (h0.failAt ..) fun hg => (h0.read hg).failAt ..
  | choice id line col alts => exact choice_frame hrec s line col alts 0 s h0
  | labeled id label e1 =>
    exact (wV e1).bind fun v ok s1 h1 => iteInduction (motive := Framed E s ok) (fun _ => h1.setLabel ..) (fun _ => h1)
  | lit id val ic want => exact lit_frame s want ic val s h0.ok rfl
  | oneOrMore id e1 => exact loop_frame hrec s e1 k s [] h0
  | zeroOrMore id e1 =>
    exact (loop_frame hrec s e1 k s [] h0).bind fun _ _ _ h => iteInduction (motive := Post E s) (fun _ => h.ok) (fun _ => h.ok)
  | zeroOrOne id e1 => exact (wV e1).bind fun _ _ _ h => h.ok
  | recovery id e1 r labels =>
    exact Outcome.Sat.bind (wrap_frame hrec e1 (pushRecovery s labels r) hm) (hp := fun _ h => ⟨h.cnt, h.bnd⟩)
      fun _ _ _ h => { h with stk := { h.stk with recov := congrArg List.tail h.stk.recov } }
  | ruleRef id name =>
    exact parseRuleRef_cases (Q := Post E s) h0.stk.toPanic (h0.others ..) fun r _ => ruleWrap_frame hrec k r s hm
  | seq id es => exact seq_frame hrec s es s [] h0.ok
  | throw id label => exact throw_frame hrec s label _ s h0

end

/-- **Frame theorem**: for every fuel, expression and state. -/
theorem parseExpr_frame (E : Env) (f : Nat) : ∀ (e : Expr) (s : PState), FrameInv E s (parseExpr E f e s) := by
  induction f with
  | zero => exact fun _ _ _ => trivial
  | succ f ih =>
    intro e s hm
    refine iteInduction (motive := Post E s) (fun _ => ⟨Nat.le_succ _, fun _ _ hb => Nat.succ_le_succ hb⟩) fun hob => ?_
    -- the counter moves by one, within the budget
    exact (body_frame ih f e (bump s)).after (b := false)
      ⟨{ Stk.refl E s with cnt := Nat.le_succ _, bnd := fun _ hn _ => Nat.le_of_not_lt (mt (overBudget_iff hn _).2 hob) },
       fun _ => rfl, fun _ => rfl, hm⟩

theorem parseExpr_framed {E : Env} {f : Nat} {e : Expr} {s s' : PState} {v : Val} {ok : Bool} (hm : MemoOK s)
    (h : parseExpr E f e s = .done v ok s') : Framed E s ok s' :=
  (parseExpr_frame E f e s hm).done h

theorem parseExpr_succ {E : Env} {f : Nat} {e : Expr} {s s' : PState} {v : Val} {ok : Bool}
    (h : parseExpr E (f + 1) e s = .done v ok s') :
    overBudget E (bump s) = false ∧
      parseExprBody E (parseExpr E f) f e (bump s) = .done v ok s' := by
  rw [parseExpr_step] at h
  rcases ite_eq_cases h with ⟨_, h⟩ | ⟨hb, h⟩
  · cases h
  · exact ⟨Bool.eq_false_iff.2 hb, h⟩

/-- what holds of the body's outcome holds of a normal return of `parseExpr` (the clause of `e` in `hs` is the body by
    unfolding) -/
theorem parseExpr_done_sat {E : Env} {f : Nat} {e : Expr} {s s' : PState} {v : Val} {ok : Bool}
    {Q : Val → Bool → PState → Prop} {Qp : PState → Prop} (h : parseExpr E (f + 1) e s = .done v ok s')
    (hs : (parseExprBody E (parseExpr E f) f e (bump s)).Sat Q Qp) : Q v ok s' :=
  hs.done (parseExpr_succ h).2

/-- the invariants the frame theorem needs and preserves -/
def FInv (E : Env) (s : PState) : Prop := MemoOK s ∧ PtInv E s

theorem FInv.congr {E : Env} {s s' : PState} (h : FInv E s) (h1 : s'.pt = s.pt) (h2 : s'.memo = s.memo) : FInv E s' :=
  ⟨h.1.congr h2, h.2.congr h1 h2⟩

theorem FInv.congr' {E : Env} {s s' : PState} (h : FInv E s) (h1 : Reach E.input s'.pt) (h2 : s'.memo = s.memo) : FInv E s' :=
  ⟨h.1.congr h2, h1, by rw [h2]; exact h.2.2⟩

theorem FInv.of_framed {E : Env} {s s' : PState} {ok : Bool} (h : FInv E s) (hf : Framed E s ok s') : FInv E s' :=
  ⟨hf.memo, hf.stk.ptinv h.2⟩

theorem FInv.setMemo {E : Env} {s : PState} (hi : FInv E s) (pt : Savepoint) (k : MemoKey) {t : MemoVal}
    (hlf : t.b = false → t.end.pos.off = pt.pos.off) (hlr : Reach E.input t.end) : FInv E (setMemoized s pt k t) :=
  ⟨MemoOK.set hi.1 hlf, hi.2.1, fun ent hent => by
    rcases List.mem_cons.mp hent with rfl | hent
    · exact hlr
    · exact hi.2.2 ent hent⟩

theorem start_inv (E : Env) : FInv E (startState E) := by
  obtain ⟨errs, h⟩ := startState_fields E
  rw [h]; exact And.intro (fun _ he => nomatch he) ⟨Reach.first E.input, fun _ he => nomatch he⟩

end RT
end PV
