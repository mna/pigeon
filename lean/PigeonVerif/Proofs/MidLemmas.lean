/-
  Lemmas on the list helpers of the analysis model (`Model/Mid.lean`).
-/
import PigeonVerif.Model.Mid
import PigeonVerif.Proofs.Basic

namespace PV

theorem lookup_map_nodup {α β : Type} (key : α → String) (val : α → β) : ∀ (l : List α), (l.map key).Nodup →
    ∀ r ∈ l, lookup (key r) (l.map (fun a => (key a, val a))) = some (val r) := by
  intro l
  induction l with
  | nil => exact fun _ _ hr => nomatch hr
  | cons a as ih =>
    intro hn r hr
    obtain ⟨hna, hn⟩ := List.nodup_cons.mp hn
    show (if key a = key r then some (val a) else lookup (key r) (as.map fun a => (key a, val a))) = some (val r)
    rcases List.mem_cons.mp hr with rfl | hr'
    · exact if_pos rfl
    · have hne : key a ≠ key r := fun e => hna (e ▸ List.mem_map_of_mem hr')
      rw [if_neg hne]
      exact ih hn r hr'

namespace Mid

theorem mem_addName (x n : String) (l : List String) : x ∈ addName n l ↔ x = n ∨ x ∈ l := by
  unfold addName
  split
  · next h => exact ⟨Or.inr, fun h' => h'.elim (· ▸ List.contains_iff_mem.mp h) id⟩
  · simp [or_comm]

theorem mem_union (x : String) (a b : List String) : x ∈ union a b ↔ x ∈ a ∨ x ∈ b := by
  unfold union
  induction b generalizing a with
  | nil => simp
  | cons n ns ih => rw [List.foldl_cons, ih, mem_addName, List.mem_cons, or_assoc, or_left_comm]

/-- membership in a union that is taken only if `c` holds (the shape of `namesSeq`, `Spec.firstCalls.callsSeq`) -/
theorem mem_ite_union {x : String} {a b : List String} {c : Prop} [Decidable c] :
    x ∈ (if c then union a b else a) ↔ x ∈ a ∨ c ∧ x ∈ b := by
  split <;> simp [mem_union, *]

theorem mem_foldl_union {α : Type} (f : α → List String) (x : String) : ∀ (l : List α) (init : List String),
    x ∈ l.foldl (fun acc a => union acc (f a)) init ↔ (x ∈ init ∨ ∃ a ∈ l, x ∈ f a) := by
  intro l
  induction l with
  | nil => simp
  | cons a l ih =>
    intro init
    rw [List.foldl_cons, ih, mem_union]
    simp only [List.mem_cons, exists_eq_or_imp, or_assoc]

theorem nodup_addName (n : String) (l : List String) (h : l.Nodup) : (addName n l).Nodup := by
  unfold addName
  split
  · exact h
  · rename_i hc
    have hn : n ∉ l := by simpa using hc
    rw [List.nodup_append]
    exact ⟨h, by simp, fun a ha b hb => by simp at hb; subst hb; exact fun e => hn (e ▸ ha)⟩

theorem nodup_union (a b : List String) (h : a.Nodup) : (union a b).Nodup := by
  unfold union
  induction b generalizing a with
  | nil => simpa using h
  | cons n ns ih => simp only [List.foldl_cons]; exact ih _ (nodup_addName n a h)

theorem length_lt_union {a b : List String} {w : String} (hw : w ∈ b) (hn : w ∉ a) (ha : a.Nodup) :
    a.length < (union a b).length :=
  (List.nodup_cons.mpr ⟨hn, ha⟩).length_le_of_subset fun _ hx =>
    (mem_union ..).mpr ((List.mem_cons.mp hx).elim (fun e => .inr (e ▸ hw)) .inl)

theorem any_union (a b : List String) (p : String → Bool) : (union a b).any p = (a.any p || b.any p) := by
  rw [Bool.eq_iff_iff]
  simp only [List.any_eq_true, Bool.or_eq_true, mem_union, or_and_right, exists_or]

theorem contains_union (a b : List String) (x : String) : (union a b).contains x = (a.contains x || b.contains x) := by
  rw [Bool.eq_iff_iff]
  simp [mem_union]

theorem lookup_mem {α : Type} (k : String) : ∀ (l : List (String × α)) (v : α), lookup k l = some v → (k, v) ∈ l :=
  fun _ _ h => PV.lookup_mem h

theorem mem_succs {g : Graph} {v t : String} (h : t ∈ succs g v) : ∃ ns, (v, ns) ∈ g ∧ t ∈ ns := by
  unfold succs at h
  cases hl : lookup v g with
  | none => rw [hl] at h; cases h
  | some ns => rw [hl] at h; exact ⟨ns, lookup_mem v g ns hl, h⟩

theorem findRule_some {G : AGrammar} {name : String} {r : ARule} (h : findRule G name = some r) :
    r ∈ G ∧ r.name = name := by
  unfold findRule at h
  exact ⟨List.mem_of_find?_eq_some h, by simpa using List.find?_some h⟩

theorem updateRule_eq_map (G : AGrammar) (n : String) (f : ARule → ARule) :
    updateRule G n f = G.map (fun r => if r.name = n then f r else r) := rfl

theorem updateRule_names (G : AGrammar) (name : String) (fn : ARule → ARule) (hn : ∀ r, (fn r).name = r.name) :
    (updateRule G name fn).map (·.name) = G.map (·.name) := by
  rw [updateRule_eq_map, List.map_map]
  exact List.map_congr_left fun r _ => (apply_ite ARule.name _ _ _).trans (by rw [hn, ite_self])

end Mid
end PV
