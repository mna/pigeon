/-
  The farthest-failure record is a function of the log of terminal evaluations.

  `failAt` is the only function of the runtime that writes `maxFailPos` / `maxFailExpected`, and every terminal
  (literal, class, any matcher) calls it exactly once per evaluation. The model's `failAt` additionally appends the
  evaluation to a ghost log (`PState.attempts`). This file proves the invariant

      (maxFailPos, maxFailExpected) = book p0 attempts

  for every state the interpreter passes through - every grammar, code environment, flag and option set (memoization,
  left recursion and a budget included), input and fuel - where `book` folds the one-step bookkeeping `noteStep`
  over the log, oldest evaluation first. `Properties/C12Base.lean` turns `book` into the declarative max / filter;
  `Properties/C12.lean`, through the refinement `RT = Spec`, ties the log to the terminal evaluations of the PEG semantics.
-/
import PigeonVerif.Proofs.Kept

namespace PV

namespace RT

frame_lemmas hit (hit s) rfl : maxFailPos maxFailExpected attempts end
frame_lemmas pushV (pushV s) rfl : maxFailPos maxFailExpected attempts end
frame_lemmas popV (popV s) rfl : maxFailPos maxFailExpected attempts end
frame_lemmas pushRecovery (pushRecovery s l r) rfl : maxFailPos maxFailExpected attempts end
frame_lemmas popRecovery (popRecovery s) rfl : maxFailPos maxFailExpected attempts end
frame_lemmas setLabel (setLabel s l v) (setLabel_writes s l v) : maxFailPos maxFailExpected attempts end
frame_lemmas addErrAt (addErrAt E s m p) rfl : maxFailPos maxFailExpected attempts end
frame_lemmas addErr (addErr E s m) rfl : maxFailPos maxFailExpected attempts end
frame_lemmas addErrAtOpt (addErrAtOpt E s o p) (addErrAtOpt_writes E s o p) : maxFailPos maxFailExpected attempts end
frame_lemmas addErrOpt (addErrOpt E s o) (addErrAtOpt_writes E s o s.pt.pos) : maxFailPos maxFailExpected attempts end
frame_lemmas restore (restore s p) (restore_writes s p) : maxFailPos maxFailExpected attempts end
frame_lemmas restoreState (restoreState E s st) (restoreState_writes E s st) : maxFailPos maxFailExpected attempts end
frame_lemmas setMemoized (setMemoized s p k t) rfl : maxFailPos maxFailExpected attempts end
frame_lemmas incChoiceAlt (incChoiceAlt s l c a) rfl : maxFailPos maxFailExpected attempts end
frame_lemmas read (read E s) (read_writes E s) : maxFailPos maxFailExpected attempts end
frame_lemmas callBlock (callBlock E b s).2 rfl : maxFailPos maxFailExpected attempts end

set_option autoImplicit false

/-- **the invariant** -/
def FI (p0 : Pos) (s : PState) : Prop := (s.maxFailPos, s.maxFailExpected) = book p0 s.attempts

/-- `failAt` is one step of the bookkeeping, and logs the evaluation -/
theorem failAt_step (s : PState) (b : Bool) (p : Pos) (w : String) :
    ((failAt s b p w).maxFailPos, (failAt s b p w).maxFailExpected) =
      noteStep (s.maxFailPos, s.maxFailExpected) { pos := p, want := w, matched := b, neg := s.maxFailInvert } ∧
    (failAt s b p w).attempts = { pos := p, want := w, matched := b, neg := s.maxFailInvert } :: s.attempts := by
  refine ⟨?_, rfl⟩
  unfold failAt failAtCore noteStep Attempt.counts Attempt.label
  by_cases h : (b == s.maxFailInvert) = true
  · simp only [h, if_true]
    by_cases h1 : p.off < s.maxFailPos.off
    · simp [h1]
    · by_cases h2 : p.off > s.maxFailPos.off
      · simp [h1, h2]
      · simp [h1, h2]
  · simp [h]

theorem FI.failAt {p0 : Pos} {s : PState} (h : FI p0 s) (b : Bool) (p : Pos) (w : String) : FI p0 (failAt s b p w) := by
  obtain ⟨h1, h2⟩ := failAt_step s b p w
  unfold FI at *
  rw [h1, h2, h]
  rfl

/-- only `failAt` writes the three fields `FI` reads -/
theorem FI.kept (E : Env) (p0 : Pos) : Kept E (FI p0) (FI p0) where
  pt _ _ h := h
  state _ _ h := h
  vstack _ _ h := h
  rstack _ _ h := h
  recov _ _ h := h
  invert _ _ h := h
  memo _ _ h := h
  errs _ _ h := h
  choiceCnt _ _ h := h
  cur _ _ h := h
  failAt _ b p w h := h.failAt b p w
  callBlock _ _ h := h
  bump _ h := h
  hit _ h _ _ := h
  panicHit _ h := h
  panic _ h := h

def _root_.PV.Outcome.FIOK (p0 : Pos) : Outcome → Prop
  | .done _ _ s' => FI p0 s'
  | .panic _ s' => FI p0 s'
  | .oof => True

theorem FIOK_iff {p0 : Pos} {o : Outcome} : o.FIOK p0 ↔ o.Sat (fun _ _ s' => FI p0 s') (FI p0) := by
  cases o <;> exact .rfl

theorem ruleWrap_fi {E : Env} {rec : Expr → PState → Outcome} {p0 : Pos} (hrec : ∀ e s, FI p0 s → (rec e s).FIOK p0)
    (k : Nat) (r : Rule) (s : PState) (h : FI p0 s) : (parseRuleWrap E rec k r s).FIOK p0 :=
  FIOK_iff.2 ((FI.kept E p0).ruleWrap (fun e s h => FIOK_iff.1 (hrec e s h)) k r s h)

/-- **the farthest-failure record is the bookkeeping of the log**, in every configuration -/
theorem parseExpr_fi (E : Env) (p0 : Pos) :
    ∀ (f : Nat) (e : Expr) (s : PState), FI p0 s → (parseExpr E f e s).FIOK p0 :=
  fun f e s h => FIOK_iff.2 ((FI.kept E p0).parseExpr f e s h)

/-- the state in which `parse` starts the entry rule satisfies the invariant, with its own position as `p0` -/
theorem startState_fi (E : Env) : FI (startState E).pt.pos (startState E) := by
  obtain ⟨errs, h⟩ := startState_fields E
  rw [h]; rfl

end RT
end PV
