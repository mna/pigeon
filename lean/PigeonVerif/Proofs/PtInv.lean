/-
  The positions of the reader: `pt0` (before the first `read`), `ptIter inp k` (after `k + 1` reads), and `Reach inp pt`:
  `pt` is one of the savepoints the reader passes through when it reads the input from the start (the k-th one, every
  earlier rune having positive width). They are a pure function of the input and the byte offset - two reachable
  savepoints with the same offset are equal (`Reach.unique`): line, column, current rune and its width are determined by
  the offset alone - and they lie inside the input (`Reach.le`). The invariant of the parser's states built on them,
  `RT.PtInv`, is defined in `Proofs/Frame.lean`.
-/
import PigeonVerif.Proofs.Utf8
import PigeonVerif.Proofs.Interp

namespace PV
namespace RT

/-- the parser's savepoint before the first `read` -/
def pt0 : Savepoint := { pos := { line := 1, col := 0, off := 0 }, rn := 0, w := 0 }

/-- the savepoint after `k+1` reads -/
def ptIter (inp : List Nat) : Nat → Savepoint
  | 0 => nextPt inp pt0
  | k + 1 => nextPt inp (ptIter inp k)

def Reach (inp : List Nat) (pt : Savepoint) : Prop :=
  ∃ k, pt = ptIter inp k ∧ ∀ j, j < k → (ptIter inp j).w ≠ 0

theorem Reach.first (inp : List Nat) : Reach inp (nextPt inp pt0) := ⟨0, rfl, fun _ h => absurd h (Nat.not_lt_zero _)⟩

theorem Reach.next {inp : List Nat} {pt : Savepoint} (h : Reach inp pt) (hw : pt.w ≠ 0) : Reach inp (nextPt inp pt) := by
  obtain ⟨k, rfl, hk⟩ := h
  refine ⟨k + 1, rfl, fun j hj => ?_⟩
  rcases Nat.lt_succ_iff_lt_or_eq.1 hj with hlt | rfl
  · exact hk j hlt
  · exact hw

theorem ptIter_off_lt (inp : List Nat) (k : Nat) (hk : ∀ j, j < k → (ptIter inp j).w ≠ 0) :
    ∀ j, j < k → (ptIter inp j).pos.off < (ptIter inp k).pos.off := by
  induction k with
  | zero => exact fun _ hj => absurd hj (Nat.not_lt_zero _)
  | succ k ih =>
    intro j hj
    have hstep : (ptIter inp k).pos.off < (ptIter inp (k + 1)).pos.off :=
      Nat.lt_of_lt_of_eq (Nat.lt_add_of_pos_right (Nat.pos_of_ne_zero (hk k (Nat.lt_succ_self k)))) (nextPt_off inp _).symm
    rcases Nat.lt_succ_iff_lt_or_eq.1 hj with hlt | rfl
    · exact Nat.lt_trans (ih (fun j hj => hk j (Nat.lt_succ_of_lt hj)) j hlt) hstep
    · exact hstep

/-- **Position purity**: a reachable savepoint is determined by its offset. -/
theorem Reach.unique {inp : List Nat} {a b : Savepoint} (ha : Reach inp a) (hb : Reach inp b)
    (h : a.pos.off = b.pos.off) : a = b := by
  obtain ⟨k1, rfl, h1⟩ := ha
  obtain ⟨k2, rfl, h2⟩ := hb
  rcases Nat.lt_trichotomy k1 k2 with hlt | heq | hgt
  · exact absurd h (Nat.ne_of_lt (ptIter_off_lt inp k2 h2 k1 hlt))
  · subst heq; rfl
  · exact absurd h.symm (Nat.ne_of_lt (ptIter_off_lt inp k1 h1 k2 hgt))

theorem decode_w0 (bs : List Nat) (h : (decodeRune bs).2 = 0) : (decodeRune bs).1 = runeError := by
  cases bs with
  | nil => rfl
  | cons b bs => have := (decodeRune_sound b bs).width_pos; omega

theorem nextPt_w0 (inp : List Nat) (pt : Savepoint) (h : (nextPt inp pt).w = 0) : (nextPt inp pt).rn = runeError := by
  obtain ⟨hr, hw⟩ := nextPt_rn_w inp pt
  rw [hr]; exact decode_w0 _ (hw ▸ h)

/-- at a reachable savepoint width 0 means end of input: the current rune is the error rune -/
theorem Reach.w0 {inp : List Nat} {pt : Savepoint} (h : Reach inp pt) (hw : pt.w = 0) : pt.rn = runeError := by
  obtain ⟨k, rfl, _⟩ := h
  cases k <;> exact nextPt_w0 _ _ hw

theorem ptIter_le (inp : List Nat) : ∀ k, (ptIter inp k).pos.off + (ptIter inp k).w ≤ inp.length := by
  have step : ∀ pt : Savepoint, pt.pos.off + pt.w ≤ inp.length →
      (nextPt inp pt).pos.off + (nextPt inp pt).w ≤ inp.length := by
    intro pt h
    rw [nextPt_off, (nextPt_rn_w inp pt).2, Nat.add_comm]
    exact Nat.add_le_of_le_sub h (List.length_drop ▸ decodeRune_le _)
  intro k
  induction k with
  | zero => exact step pt0 (by simp [pt0])
  | succ k ih => exact step _ ih

theorem Reach.le {inp : List Nat} {pt : Savepoint} (h : Reach inp pt) : pt.pos.off + pt.w ≤ inp.length := by
  obtain ⟨k, rfl, _⟩ := h; exact ptIter_le inp k

theorem restore_pt_reach {inp : List Nat} (s : PState) (pt : Savepoint) (h1 : Reach inp s.pt) (h2 : Reach inp pt) :
    Reach inp (restore s pt).pt := by
  unfold restore; split
  · exact h1
  · exact h2

theorem restore_pt {E : Env} (s' : PState) (pt : Savepoint) (h1 : Reach E.input s'.pt) (h2 : Reach E.input pt) :
    (restore s' pt).pt = pt := by
  unfold restore; split
  · rename_i h; exact Reach.unique h1 h2 h.symm
  · rfl

@[simp] theorem restore_off (s : PState) (pt : Savepoint) : (restore s pt).pt.pos.off = pt.pos.off := by
  unfold restore; split
  · next h => exact h.symm
  · rfl

end RT
end PV
