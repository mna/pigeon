/-
  Frame invariant of the runtime model, proved for every grammar, code
  environment, flag set, option set, input and fuel:

  after evaluating any expression
    * the rule stack, the recovery (handler) stack and the `!`-parity are what
      they were before, the variable stack has the same frames below the top;
    * `exprCnt` never decreases;
    * a *failed* expression leaves the state store and the input offset
      exactly as they were (also with memoization and left recursion);
  These are the shared lemmas behind C01 (failure consumes nothing), C05 (rollback),
  C14 (handler discipline), C16 (budget).
-/
import PigeonVerif.Proofs.PtInv

namespace PV

/-- what holds of an outcome: `Q` for normal returns, `Qp` for panics -/
def Outcome.Sat (o : Outcome) (Q : Val → Bool → PState → Prop) (Qp : PState → Prop) : Prop :=
  match o with
  | .oof => True
  | .done v ok s' => Q v ok s'
  | .panic _ s' => Qp s'

/-- `hp` carries what is known of a panic of `o` over to the whole; by default nothing changes -/
theorem Outcome.Sat.bind {o : Outcome} {k : Val → Bool → PState → Outcome}
    {Q Q' : Val → Bool → PState → Prop} {Qp Qp' : PState → Prop}
    (ho : o.Sat Q' Qp') (hk : ∀ v ok s', Q' v ok s' → (k v ok s').Sat Q Qp)
    (hp : ∀ s', Qp' s' → Qp s' := by exact fun _ h => h) : (o.bind k).Sat Q Qp := by
  cases o with
  | oof => trivial
  | panic p s' => exact hp _ ho
  | done v ok s' => exact hk v ok s' ho

theorem Outcome.Sat.mono {o : Outcome} {Q Q' : Val → Bool → PState → Prop} {Qp Qp' : PState → Prop}
    (ho : o.Sat Q Qp) (hq : ∀ v ok s', Q v ok s' → Q' v ok s') (hp : ∀ s', Qp s' → Qp' s') :
    o.Sat Q' Qp' := by
  cases o with
  | oof => trivial
  | panic p s' => exact hp _ ho
  | done v ok s' => exact hq _ _ _ ho

/-- weaken the postcondition; nothing is claimed of a panic -/
theorem Outcome.Sat.imp {o : Outcome} {Q Q' : Val → Bool → PState → Prop} {Qp : PState → Prop} (ho : o.Sat Q Qp)
    (hq : ∀ v ok s', Q v ok s' → Q' v ok s') : o.Sat Q' (fun _ => True) :=
  Outcome.Sat.mono ho hq fun _ _ => trivial

theorem Outcome.Sat.and {o : Outcome} {Q Q' : Val → Bool → PState → Prop} {Qp Qp' : PState → Prop} (h : o.Sat Q Qp)
    (h' : o.Sat Q' Qp') : o.Sat (fun v ok s' => Q v ok s' ∧ Q' v ok s') (fun s' => Qp s' ∧ Qp' s') := by
  cases o with
  | oof => trivial
  | _ => exact ⟨h, h'⟩

/-- what holds of an outcome holds of the normal return it is -/
theorem Outcome.Sat.done {o : Outcome} {Q : Val → Bool → PState → Prop} {Qp : PState → Prop} (ho : o.Sat Q Qp)
    {v : Val} {ok : Bool} {s' : PState} (h : o = .done v ok s') : Q v ok s' := by
  subst h; exact ho

namespace RT

/-- memo entries recorded for a failure end where they started -/
def MemoOK (s : PState) : Prop :=
  ∀ e ∈ s.memo, e.2.b = false → e.2.end.pos.off = e.1.1

/-- `globalStore` as the most recent code block left it (or the initial one) -/
def lastGlobal (E : Env) : List Event → Store
  | [] => E.opts.initGlobal
  | ev :: _ => ev.gout

/-- the parser itself never writes `globalStore` -/
def GInv (E : Env) (s : PState) : Prop := s.global = lastGlobal E s.trace

/-- the current savepoint and all memoized end savepoints are positions of the reader -/
def PtInv (E : Env) (s : PState) : Prop :=
  Reach E.input s.pt ∧ ∀ e ∈ s.memo, Reach E.input e.2.end

/-- the part of the frame relation that composes (reflexive, transitive) -/
structure Stk (E : Env) (s s' : PState) : Prop where
  cnt : s.exprCnt ≤ s'.exprCnt
  vtail : s'.vstack.tail = s.vstack.tail
  vlen : s'.vstack.length = s.vstack.length
  rstack : s'.rstack = s.rstack
  recov : s'.recoveryStack = s.recoveryStack
  invert : s'.maxFailInvert = s.maxFailInvert
  noState : E.useState = false → s'.state = s.state
  /-- the budget is respected -/
  bnd : ∀ n, E.opts.maxExpr = some n → s.exprCnt ≤ n → s'.exprCnt ≤ n
  /-- globalStore is whatever the most recent code block left -/
  ginv : GInv E s → GInv E s'
  /-- the parser position and every memoized end position are reader positions -/
  ptinv : PtInv E s → PtInv E s'

/-- what is known of the state in which a panic was raised -/
structure PanicPost (E : Env) (s s' : PState) : Prop where
  cnt : s.exprCnt ≤ s'.exprCnt
  bnd : ∀ n, E.opts.maxExpr = some n → s.exprCnt ≤ n → s'.exprCnt ≤ n + 1

/-- relation between the state before and after a normal return -/
structure Framed (E : Env) (s : PState) (ok : Bool) (s' : PState) : Prop where
  stk : Stk E s s'
  failState : ok = false → s'.state = s.state
  failOff : ok = false → s'.pt.pos.off = s.pt.pos.off
  memo : MemoOK s'

def FrameInv (E : Env) (s : PState) (o : Outcome) : Prop :=
  MemoOK s → o.Sat (fun _ ok s' => Framed E s ok s') (fun s' => PanicPost E s s')

/-- `frame_lemmas op (op … s) h : f₁ … fₙ end` states `@[simp] theorem op.fᵢ : (op … s).fᵢ = s.fᵢ` for fields that
    `op` does not write: `h : op … s = { s with … }` names the ones it may write (Proofs/Interp.lean), and is `rfl`
    when `op` is itself a record update. -/
syntax "frame_lemmas " ident term:max term:max " : " ident+ " end" : command

open Lean in
macro_rules
  | `(frame_lemmas $op $t $h : $flds* end) => do
    let cmds ← flds.mapM fun f => do
      let nm := mkIdent (op.getId ++ f.getId)
      let proj := mkIdent (`PV.PState ++ f.getId)
      let sv := mkIdent `s
      `(@[simp] theorem $nm : $proj $t = $proj $sv := (congrArg $proj $h : $proj $t = _))
    return mkNullNode cmds

frame_lemmas callBlock (callBlock E b s).2 rfl : exprCnt rstack vstack recoveryStack maxFailInvert pt memo errs memoHits end

-- declared, not auto-bound (that restarts the elaboration of a statement); `callBlock` stands above: its binders are `E b s`
variable {E : Env} {s : PState}

frame_lemmas hit (hit s) rfl : exprCnt rstack vstack recoveryStack memo global end
frame_lemmas pushV (pushV s) rfl : exprCnt rstack recoveryStack pt memo errs global memoHits end
frame_lemmas popV (popV s) rfl : exprCnt rstack recoveryStack maxFailInvert pt memo errs global memoHits end
frame_lemmas pushRecovery (pushRecovery s l r) rfl : exprCnt rstack vstack pt memo global memoHits end
frame_lemmas popRecovery (popRecovery s) rfl : exprCnt rstack vstack pt memo global memoHits end
frame_lemmas setLabel (setLabel s l v) (setLabel_writes s l v) : exprCnt rstack recoveryStack pt memo errs global memoHits end
frame_lemmas addErrAt (addErrAt E s m p) rfl : exprCnt rstack vstack recoveryStack global memoHits end
frame_lemmas addErr (addErr E s m) rfl : exprCnt rstack vstack recoveryStack memo global memoHits end
frame_lemmas addErrAtOpt (addErrAtOpt E s o p) (addErrAtOpt_writes E s o p) : exprCnt rstack vstack recoveryStack state pt memo global memoHits end
frame_lemmas addErrOpt (addErrOpt E s o) (addErrAtOpt_writes E s o s.pt.pos) : exprCnt rstack vstack recoveryStack maxFailInvert state pt memo global memoHits end
frame_lemmas failAt (failAt s b p w) (failAt_writes s b p w) : exprCnt rstack vstack recoveryStack maxFailInvert state pt memo errs global memoHits end
frame_lemmas restore (restore s p) (restore_writes s p) : exprCnt rstack vstack recoveryStack state memo errs global memoHits end
frame_lemmas restoreState (restoreState E s st) (restoreState_writes E s st) : exprCnt rstack vstack recoveryStack maxFailInvert pt memo errs global trace nCalls memoHits end
frame_lemmas setMemoized (setMemoized s p k t) rfl : exprCnt rstack vstack recoveryStack state pt errs global memoHits end
frame_lemmas incChoiceAlt (incChoiceAlt s l c a) rfl : exprCnt rstack vstack recoveryStack pt memo errs global memoHits end
frame_lemmas read (read E s) (read_writes E s) : exprCnt rstack vstack recoveryStack maxFailInvert state memo global memoHits end

@[simp] theorem bump_state (s : PState) : (bump s).state = s.state := rfl
@[simp] theorem bump_memo (s : PState) : (bump s).memo = s.memo := rfl
@[simp] theorem bump_pt (s : PState) : (bump s).pt = s.pt := rfl
@[simp] theorem bump_global (s : PState) : (bump s).global = s.global := rfl
@[simp] theorem bump_trace (s : PState) : (bump s).trace = s.trace := rfl
@[simp] theorem bump_recov (s : PState) : (bump s).recoveryStack = s.recoveryStack := rfl
@[simp] theorem bump_vstack (s : PState) : (bump s).vstack = s.vstack := rfl
@[simp] theorem bump_rstack (s : PState) : (bump s).rstack = s.rstack := rfl
@[simp] theorem bump_memoHits (s : PState) : (bump s).memoHits = s.memoHits := rfl
@[simp] theorem hit_memoHits (s : PState) : (hit s).memoHits = s.memoHits + 1 := rfl

end RT
end PV
