/-
  LeaderOrder — the choice of the leader of a strongly connected component does not depend on any
  enumeration order (C19, leader clause).

  In the Go code (`builder/left_recursion.go`, `builder/scc.go`) the first graph is a
  `map[string]map[string]struct{}` and a component is a `map[string]struct{}`: `findLeader` ranges
  over the members of the component (start vertices, candidates), `FindCyclesInSCC` ranges over the
  successors of a node, and the final pick ranges over the surviving candidates.  Go randomises
  every one of these orders.  In the model (`Mid.findLeader`, `Mid.lassos`, `Mid.sccOf`) a map is a
  list, so an iteration order is the order of a list; the theorems below say that two lists with the
  same MEMBERS give the same component (as a set) and the same leader.
-/
import PigeonVerif.Proofs.Reach

namespace PV
namespace Mid

/-- two lists that a Go map iteration could both produce: the same members -/
def SameMem {α : Type} (l1 l2 : List α) : Prop := ∀ x, x ∈ l1 ↔ x ∈ l2

theorem SameMem.refl {α : Type} (l : List α) : SameMem l l := fun _ => Iff.rfl
theorem SameMem.symm {α : Type} {l1 l2 : List α} (h : SameMem l1 l2) : SameMem l2 l1 := fun x => (h x).symm
theorem SameMem.of_perm {α : Type} {l1 l2 : List α} (h : l1.Perm l2) : SameMem l1 l2 := fun _ => h.mem_iff
theorem SameMem.length_eq {l1 l2 : List String} (h : SameMem l1 l2) (n1 : l1.Nodup) (n2 : l2.Nodup) : l1.length = l2.length :=
  ((List.perm_ext_iff_of_nodup n1 n2).mpr h).length_eq

/-- two adjacency structures with the same successor SETS -/
def SameSuccs (g1 g2 : Graph) : Prop := ∀ v, SameMem (succs g1 v) (succs g2 v)

theorem contains_sameMem {l1 l2 : List String} (h : SameMem l1 l2) (x : String) : l1.contains x = l2.contains x := by
  rw [Bool.eq_iff_iff]
  simp only [List.contains_iff_mem]
  exact h x

theorem any_sameMem {l1 l2 : List String} (h : SameMem l1 l2) (p q : String → Bool) (hpq : ∀ x, p x = q x) :
    l1.any p = l2.any q := by
  rw [Bool.eq_iff_iff]
  simp only [List.any_eq_true, h _, hpq]

theorem any_const {l : List String} {p : String → Bool} {b : Bool} {v : String} (hv : v ∈ l)
    (h : ∀ x ∈ l, p x = b) : l.any p = b := by
  cases b with
  | false =>
    rw [Bool.eq_false_iff]
    intro ht
    obtain ⟨x, hx, hp⟩ := List.any_eq_true.mp ht
    rw [h x hx] at hp; cases hp
  | true => exact List.any_eq_true.mpr ⟨v, hv, h v hv⟩

theorem mem_lassos_step (g : Graph) (scc : List String) (k : Nat) (node : String) (path p : List String) :
    p ∈ lassos g scc (k + 1) node path ↔
      (node ∈ path ∧ p = path ++ [node]) ∨
      (node ∉ path ∧ ∃ c, c ∈ succs g node ∧ c ∈ scc ∧
        p ∈ lassos g scc k c (path ++ [node])) := by
  show p ∈ (if path.contains node = true then [path ++ [node]] else
    ((succs g node).filter (scc.contains ·)).foldl (fun acc c => acc ++ lassos g scc k c (path ++ [node])) []) ↔ _
  split
  · rename_i h
    have h' : node ∈ path := by simpa using h
    simp [h']
  · rename_i h
    have h' : node ∉ path := by simpa using h
    simp only [← List.flatMap_eq_foldl, List.mem_flatMap, List.mem_filter]
    simp [h', and_assoc]

theorem lassos_sameMem {g1 g2 : Graph} {scc1 scc2 : List String} (hg : SameSuccs g1 g2) (hs : SameMem scc1 scc2) :
    ∀ (k : Nat) (node : String) (path : List String),
      SameMem (lassos g1 scc1 k node path) (lassos g2 scc2 k node path) := by
  intro k
  induction k with
  | zero => exact fun _ _ _ => ⟨nofun, nofun⟩
  | succ k ih =>
    intro node path p
    rw [mem_lassos_step, mem_lassos_step]
    simp only [hg node _, hs _, ih _ _ p]

/-- all lasso paths of a component, from every start -/
def allLassos (g : Graph) (scc : List String) (k : Nat) : List (List String) :=
  scc.foldl (fun acc s => acc ++ lassos g scc k s []) []

theorem mem_allLassos (g : Graph) (scc : List String) (k : Nat) (p : List String) :
    p ∈ allLassos g scc k ↔ ∃ s ∈ scc, p ∈ lassos g scc k s [] := by
  simp only [allLassos, ← List.flatMap_eq_foldl, List.mem_flatMap]

section
-- core's lemmas on `List.min?` want a lawful `Min`, and `String` has none: this is the `Min` that `≤` gives
-- (`m ≤ y` is `¬ y < m` by definition, which is the test of `minStr`)
attribute [local instance] Min.leftLeaningOfLE

theorem minStr_eq_min? (l : List String) : minStr l = l.min? := by
  cases l with
  | nil => rfl
  | cons x xs => exact congrArg (fun f => some (xs.foldl f x)) (funext fun m => funext fun y => (ite_not ..).symm)

theorem minStr_eq_some_iff {l : List String} {m : String} : minStr l = some m ↔ m ∈ l ∧ ∀ y ∈ l, m ≤ y :=
  minStr_eq_min? l ▸ List.min?_eq_some_iff

end

theorem minStr_spec (l : List String) :
    match minStr l with
    | none => l = []
    | some m => m ∈ l ∧ ∀ y ∈ l, m ≤ y := by
  cases h : minStr l with
  | none => cases l with | nil => rfl | cons _ _ => nomatch h
  | some m => exact minStr_eq_some_iff.mp h

/-- the final pick of `findLeader` (`for k := range leaders { if leader == "" || k < leader … }`) is a
    function of the SET of candidates -/
theorem minStr_sameMem {l1 l2 : List String} (h : SameMem l1 l2) : minStr l1 = minStr l2 :=
  Option.ext fun m => by simp only [minStr_eq_some_iff, h _]

theorem findLeader_eq (g : Graph) (scc : List String) :
    findLeader g scc =
      minStr (scc.filter (fun v => (allLassos g scc (scc.length + 2)).all (fun p => p.contains v))) := rfl

theorem findLeader_mem {g : Graph} {scc : List String} {l : String} (h : findLeader g scc = some l) : l ∈ scc :=
  (List.mem_filter.mp (minStr_eq_some_iff.mp h).1).1

theorem onAll_sameMem {g1 g2 : Graph} {scc1 scc2 : List String} (hg : SameSuccs g1 g2) (hs : SameMem scc1 scc2)
    (k : Nat) (v : String) :
    (allLassos g1 scc1 k).all (fun p => p.contains v) = (allLassos g2 scc2 k).all (fun p => p.contains v) := by
  rw [Bool.eq_iff_iff]
  simp only [List.all_eq_true, mem_allLassos, hs _, lassos_sameMem hg hs k _ [] _]

/-- **The leader of a component is a function of the component as a SET and of the successor SETS**, provided
    the two enumerations of the component have the same length (Go: the same map, so the same number of keys;
    the length only bounds the depth of the path search). -/
theorem findLeader_order_free {g1 g2 : Graph} {scc1 scc2 : List String} (hg : SameSuccs g1 g2)
    (hs : SameMem scc1 scc2) (hl : scc1.length = scc2.length) : findLeader g1 scc1 = findLeader g2 scc2 := by
  rw [findLeader_eq, findLeader_eq]
  apply minStr_sameMem
  intro v
  simp only [List.mem_filter]
  rw [hl, onAll_sameMem hg hs (scc2.length + 2) v]
  exact and_congr_left' (hs v)

theorem path_sameSuccs {g1 g2 : Graph} (hg : SameSuccs g1 g2) {a b : String} (h : Path g1 a b) : Path g2 a b :=
  Path.mono (ok := fun _ => True) (fun _ _ _ => trivial) (fun a b e _ => (hg a b).mp e) h trivial

theorem reachFrom_sameMem {g1 g2 : Graph} (h1 : GraphOK g1) (h2 : GraphOK g2) (hg : SameSuccs g1 g2) (v : String) :
    SameMem (reachFrom g1 v) (reachFrom g2 v) := by
  intro x
  rw [mem_reachFrom_iff g1 h1, mem_reachFrom_iff g2 h2]
  exact ⟨path_sameSuccs hg, path_sameSuccs (fun v => (hg v).symm)⟩

theorem sccOf_sameMem {g1 g2 : Graph} (h1 : GraphOK g1) (h2 : GraphOK g2) (hg : SameSuccs g1 g2) (v : String) :
    SameMem (sccOf g1 v) (sccOf g2 v) := by
  intro x
  rw [mem_sccOf, mem_sccOf, reachFrom_sameMem h1 h2 hg v x, reachFrom_sameMem h1 h2 hg x v]

theorem sccOf_length {g1 g2 : Graph} (h1 : GraphOK g1) (h2 : GraphOK g2) (hg : SameSuccs g1 g2) (v : String) :
    (sccOf g1 v).length = (sccOf g2 v).length :=
  (sccOf_sameMem h1 h2 hg v).length_eq (sccOf_nodup g1 h1 v) (sccOf_nodup g2 h2 v)

theorem scc_sameMem_of_mem (g : Graph) (hg : GraphOK g) {v x : String} (h : x ∈ sccOf g v) :
    SameMem (sccOf g x) (sccOf g v) := by
  intro y
  rw [mem_sccOf_iff g hg, mem_sccOf_iff g hg]
  have hc := (mem_sccOf_iff g hg v x).mp h
  exact ⟨fun h2 => hc.trans h2, fun h2 => hc.symm.trans h2⟩

theorem scc_length_of_mem (g : Graph) (hg : GraphOK g) {v x : String} (h : x ∈ sccOf g v) :
    (sccOf g x).length = (sccOf g v).length :=
  (scc_sameMem_of_mem g hg h).length_eq (sccOf_nodup g hg x) (sccOf_nodup g hg v)

theorem findLeader_of_mem (g : Graph) (hg : GraphOK g) {v x : String} (h : x ∈ sccOf g v) :
    findLeader g (sccOf g x) = findLeader g (sccOf g v) :=
  findLeader_order_free (fun _ => SameMem.refl _) (scc_sameMem_of_mem g hg h) (scc_length_of_mem g hg h)

/-- **Leader choice, end to end**: two first graphs with the same successor sets (two iteration orders of the same
    Go maps) give every vertex the same component and that component the same leader (or both none: `ErrNoLeader`). -/
theorem leader_of_vertex_order_free {g1 g2 : Graph} (h1 : GraphOK g1) (h2 : GraphOK g2) (hg : SameSuccs g1 g2)
    (v : String) : findLeader g1 (sccOf g1 v) = findLeader g2 (sccOf g2 v) :=
  findLeader_order_free hg (sccOf_sameMem h1 h2 hg v) (sccOf_length h1 h2 hg v)

theorem hasSelfLoop_sameSuccs {g1 g2 : Graph} (hg : SameSuccs g1 g2) (v : String) :
    hasSelfLoop g1 v = hasSelfLoop g2 v := contains_sameMem (hg v) v

end Mid
end PV
