/-
  A directly left-recursive rule `A <- A t1 / … / A tn / b1 / … / bm` parses as the iteration it denotes.

  The operands (`ti`, `bj`) are leader-free: no rule that runs the seed-growing loop can be reached from them, so they
  are evaluated exactly as the ordinary parser evaluates them (`Proofs/LFree.lean`), and, the code being pure, what
  they match at a position does not depend on the state they are evaluated in (`loc`, `Proofs/MemoSound.lean`).
  `Loc x p ok v q` records that fact for one operand at one position; `Iter` composes such facts the way the iteration
  `(b1/…/bm) (t1/…/tn)*` with a left-nested value does; `leader_iter` shows that the seed-growing loop computes it.
-/
import PigeonVerif.Proofs.LFree
import PigeonVerif.Proofs.MemoSound

namespace PV
namespace RT

/-! ### what the ordinary parser does with an operand at a position -/

section defs
variable (E : Env) (A : Rule)

/-- a state at position `p` inside rule `A` -/
def GoodAt (p : Savepoint) (t : PState) : Prop := t.pt = p ∧ t.rstack.head? = some A

/-- the ORDINARY parser (generated without `-support-left-recursion`, run without `Memoize`) evaluates `x` at `p`,
    inside rule `A`, to success flag `ok`, value `v` and end position `q` — from EVERY state at that position -/
def Loc (x : Expr) (p : Savepoint) (ok : Bool) (v : Val) (q : Savepoint) : Prop :=
  Reach E.input p ∧ Reach E.input q ∧
  ∃ F, ∀ t, GoodAt A p t → ∃ t', parseExpr (noLR E) F x t = .done v ok t' ∧ t'.pt = q ∧ t'.rstack = t.rstack

/-- a sequence of operands from `p`: the values of the items and the end position; `false` = some item fails -/
inductive SeqAt : List Expr → Savepoint → Bool → List Val → Savepoint → Prop
  | nil (p : Savepoint) : SeqAt [] p true [] p
  | cons {e : Expr} {es : List Expr} {p q q' : Savepoint} {v : Val} {ok : Bool} {vs : List Val} :
      Loc E A e p true v q → SeqAt es q ok vs q' → SeqAt (e :: es) p ok (v :: vs) q'
  | fail {e : Expr} {es : List Expr} {p : Savepoint} {v : Val} : Loc E A e p false v p → SeqAt (e :: es) p false [] p

/-- ordered choice among operands at `p` -/
inductive AltAt : List Expr → Savepoint → Bool → Val → Savepoint → Prop
  | nil (p : Savepoint) : AltAt [] p false .nil p
  | hit {a : Expr} {as : List Expr} {p q : Savepoint} {v : Val} : Loc E A a p true v q → AltAt (a :: as) p true v q
  | miss {a : Expr} {as : List Expr} {p q : Savepoint} {v v' : Val} {ok : Bool} :
      Loc E A a p false v' p → AltAt as p ok v q → AltAt (a :: as) p ok v q

/-- ordered choice among operand SEQUENCES at `p`: the first that matches, or none -/
inductive TailsAt : List (List Expr) → Savepoint → Option (List Val × Savepoint) → Prop
  | nil (p : Savepoint) : TailsAt [] p none
  | hit {t : List Expr} {ts : List (List Expr)} {p q : Savepoint} {vs : List Val} :
      SeqAt E A t p true vs q → TailsAt (t :: ts) p (some (vs, q))
  | miss {t : List Expr} {ts : List (List Expr)} {p q : Savepoint} {vs : List Val} {r : Option (List Val × Savepoint)} :
      SeqAt E A t p false vs q → TailsAt ts p r → TailsAt (t :: ts) p r

/-- greedy repetition of "one of the tails", folding the values to the left: from the match so far (`v`, ending at `p`)
    to the final one -/
inductive Reps (tails : List (List Expr)) : Savepoint → Val → Savepoint → Val → Prop
  | stop {p : Savepoint} {v : Val} : TailsAt E A tails p none → Reps tails p v p v
  | step {p q q' : Savepoint} {v v' : Val} {vs : List Val} : TailsAt E A tails p (some (vs, q)) →
      p.pos.off < q.pos.off → Reps tails q (.list (v :: vs)) q' v' → Reps tails p v q' v'

/-- **the iteration**: one of the bases at `p0`, then greedily the tails; `ok = false` iff no base matches -/
def Iter (tails : List (List Expr)) (bases : List Expr) (p0 : Savepoint) (ok : Bool) (v : Val) (q : Savepoint) : Prop :=
  (ok = false ∧ AltAt E A bases p0 false v q) ∨
  (ok = true ∧ ∃ v1 p1, AltAt E A bases p0 true v1 p1 ∧ Reps E A tails p1 v1 q v)

end defs

/-! ### the hypotheses -/

/-- the alternative `A t` of the rule named `a` -/
def mkAlt (a : String) (x : Nat × Nat × List Expr) : Expr := .seq x.1 (.ruleRef x.2.1 a :: x.2.2)

structure DirectLR (E : Env) (A : Rule) (cid line col : Nat) (ra : List (Nat × Nat × List Expr)) (bases : List Expr)
    (S : String → Bool) (rn : String → Bool) (own : Nat → Option String) (node : Nat → Option Expr)
    (isPred : Nat → Bool) : Prop where
  cfg : LRCfg E
  noopt : E.flags.optimize = false
  pure : PureCode E isPred
  okG : ∀ n r, E.findRule n = some r → r.expr.Ok own node isPred n
  find : E.findRule A.name = some A
  ld : isLd A = true
  shape : A.expr = .choice cid line col (ra.map (mkAlt A.name) ++ bases)
  lf : LFSet E S
  tails_lf : ∀ a ∈ ra, callsInL S a.2.2 = true
  bases_lf : callsInL S bases = true
  rnc : ∀ n r, E.findRule n = some r → r.expr.nul rn = true → rn n = true
  tails_nn : ∀ a ∈ ra, nulAll rn a.2.2 = false

section main
variable {E : Env} {A : Rule} {cid line col : Nat} {ra : List (Nat × Nat × List Expr)} {bases : List Expr}
variable {S : String → Bool} {rn : String → Bool} {own : Nat → Option String} {node : Nat → Option Expr}
variable {isPred : Nat → Bool}

/-! ### what an operand does at a position is determined -/

theorem Loc.det {x : Expr} {p q q' : Savepoint} {ok ok' : Bool} {v v' : Val} (h1 : Loc E A x p ok v q)
    (h2 : Loc E A x p ok' v' q') : ok = ok' ∧ v = v' ∧ q = q' := by
  obtain ⟨_, _, F1, h1⟩ := h1
  obtain ⟨_, _, F2, h2⟩ := h2
  have hg : GoodAt A p { initState E with pt := p, rstack := [A] } := ⟨rfl, rfl⟩
  obtain ⟨t1, e1, rfl, _⟩ := h1 _ hg
  obtain ⟨t2, e2, rfl, _⟩ := h2 _ hg
  cases Parses.unique ⟨done_ne_oof _ _ _, F1, e1⟩ ⟨done_ne_oof _ _ _, F2, e2⟩
  exact ⟨rfl, rfl, rfl⟩

theorem AltAt.det {bs : List Expr} {p q q' : Savepoint} {ok ok' : Bool} {v v' : Val} (h1 : AltAt E A bs p ok v q)
    (h2 : AltAt E A bs p ok' v' q') : ok = ok' ∧ v = v' ∧ q = q' := by
  induction h1 with
  | nil => cases h2; exact ⟨rfl, rfl, rfl⟩
  | hit l1 =>
    cases h2 with
    | hit l2 => exact ⟨rfl, (l1.det l2).2⟩
    | miss l2 _ => exact Bool.noConfusion (l1.det l2).1
  | miss l1 _ ih =>
    cases h2 with
    | hit l2 => exact Bool.noConfusion (l1.det l2).1
    | miss _ r2 => exact ih r2

theorem AltAt.fail_inv : ∀ {bs : List Expr} {p q : Savepoint} {v : Val}, AltAt E A bs p false v q → v = .nil ∧ q = p
  | _, _, _, _, .nil _ => ⟨rfl, rfl⟩
  | _, _, _, _, .miss _ r => AltAt.fail_inv r

/-- what is kept fixed while operands are evaluated: frame invariants, the rule stack (`A` innermost), the memo table -/
structure OpInv (E : Env) (A : Rule) (rs : List Rule) (m : List ((Nat × MemoKey) × MemoVal)) (X : PState) : Prop where
  finv : FInv E X
  stack : X.rstack = A :: rs
  memo : X.memo = m

section
variable {rs : List Rule} {m : List ((Nat × MemoKey) × MemoVal)}

/-- `simp` reads the equations off the state operations that lead from `X` to `X'` -/
theorem OpInv.congr' {X X' : PState} (h : OpInv E A rs m X) (h1 : Reach E.input X'.pt)
    (h2 : X'.rstack = X.rstack := by simp) (h3 : X'.memo = X.memo := by simp) : OpInv E A rs m X' :=
  ⟨h.finv.congr' h1 h3, h2.trans h.stack, h3.trans h.memo⟩

theorem OpInv.congr {X X' : PState} (h : OpInv E A rs m X) (h1 : X'.pt = X.pt := by simp)
    (h2 : X'.rstack = X.rstack := by simp) (h3 : X'.memo = X.memo := by simp) : OpInv E A rs m X' :=
  h.congr' (h1 ▸ h.finv.2.1) h2 h3

end

variable (H : DirectLR E A cid line col ra bases S rn own node isPred)
include H

/-- an operand that fails ends where it started; one that matches does not move backwards, and stays only if it may match
    the empty string: what the frame and progress theorems say of the run from the initial state moved to `p` -/
theorem Loc.adv {x : Expr} {p q : Savepoint} {ok : Bool} {v : Val} (h : Loc E A x p ok v q) :
    (ok = false → q = p) ∧ (ok = true → p.pos.off ≤ q.pos.off ∧ (q.pos.off = p.pos.off → x.nul rn = true)) := by
  obtain ⟨hp, hq, F, h⟩ := h
  have hi : FInv E { initState E with pt := p, rstack := [A] } :=
    ⟨fun _ h => (List.not_mem_nil h).elim, hp, fun _ h => (List.not_mem_nil h).elim⟩
  obtain ⟨t', e, rfl, _⟩ := h { initState E with pt := p, rstack := [A] } ⟨rfl, rfl⟩
  exact ⟨fun hb => Reach.unique hq hp (((parseExpr_frame (noLR E) F x _ hi.1).done e).failOff hb),
    ((noLR_adv E H.rnc [] F x _ hi rfl).done e).2⟩

/-- so does a sequence of operands that matches -/
theorem SeqAt.adv {t : List Expr} {p q : Savepoint} {ok : Bool} {vs : List Val} (h : SeqAt E A t p ok vs q) (hok : ok = true) :
    p.pos.off ≤ q.pos.off ∧ (q.pos.off = p.pos.off → nulAll rn t = true) := by
  induction h with
  | nil => exact ⟨Nat.le_refl _, fun _ => rfl⟩
  | cons hl _ ih =>
    obtain ⟨a1, a2⟩ := (hl.adv H).2 rfl
    obtain ⟨b1, b2⟩ := ih hok
    exact ⟨Nat.le_trans a1 b1, fun h => by simp [nulAll, a2 (by omega), b2 (by omega)]⟩
  | fail => cases hok

section attempt
variable {rs : List Rule} {m : List ((Nat × MemoKey) × MemoVal)}

variable (f : Nat)

/-- one operand, evaluated by the left-recursion parser in any state of the growth attempt -/
theorem op_sat (x : Expr) (hlf : x.callsIn S = true) (hok : x.Ok own node isPred A.name) (X : PState)
    (hX : OpInv E A rs m X) :
    (parseExpr E f x X).Sat (fun v ok X' => Loc E A x X.pt ok v X'.pt ∧ OpInv E A rs m X') (fun _ => True) := by
  rw [← parseExpr_noLR H.cfg H.lf f x hlf X]
  have ha := noLR_adv E H.rnc m f x X hX.finv hX.memo
  have hfr := parseExpr_frame (noLR E) f x X hX.finv.1
  cases ho : parseExpr (noLR E) f x X with
  | oof => trivial
  | panic p X' => trivial
  | done v ok X' =>
    rw [ho] at ha hfr
    have hi' : FInv E X' := FInv.of_framed (E := noLR E) hX.finv hfr
    refine ⟨⟨hX.finv.2.1, hi'.2.1, f, fun t ht => ?_⟩, hi', hfr.stk.rstack.trans hX.stack, ha.1⟩
    have hcfg : MemoCfg (dropLR E) := ⟨H.noopt, rfl, H.cfg.nobudget⟩
    have hp : PureCode (dropLR E) isPred := ⟨H.pure.noargs, H.pure.act, H.pure.pred⟩
    obtain ⟨t', _, h1, h2, _, h4, _⟩ := loc_done hcfg hp (own := own) (node := node) H.okG f hok H.find ht.1
      (ht.1 ▸ hX.finv.2.1) ht.2 (by rw [hX.stack]; rfl) ho
    exact ⟨t', h1, h2, h4⟩

/-- a sequence of operands, from an intermediate state, with any accumulator -/
theorem seq_sat (pt : Savepoint) (hpt : Reach E.input pt) (st : Store) (t : List Expr) (hlf : callsInL S t = true)
    (hok : OkL own node isPred A.name t) (X : PState) (acc : List Val) (hX : OpInv E A rs m X) :
    (parseSeq E (parseExpr E f) pt st t X acc).Sat
      (fun v ok X' => OpInv E A rs m X' ∧ ∃ vs q, SeqAt E A t X.pt ok vs q ∧
        (ok = true → v = .list (acc.reverse ++ vs) ∧ X'.pt = q) ∧ (ok = false → X'.pt = pt))
      (fun _ => True) := by
  induction t generalizing X acc with
  | nil => exact ⟨hX, [], _, SeqAt.nil _, fun _ => ⟨by simp, rfl⟩, nofun⟩
  | cons e es ih =>
    rw [parseSeq_cons, wrap_LR H.cfg]
    apply Outcome.Sat.bind (op_sat H f e (callsInL_cons.mp hlf).1 hok.1 X hX)
    intro v ok X1 ⟨hloc, hX1⟩
    cases ok with
    | true =>
      refine (ih (callsInL_cons.mp hlf).2 hok.2 X1 (v :: acc) hX1).imp fun v2 ok2 X2 ⟨hX2, vs, q, hs, hT, hF⟩ =>
        ⟨hX2, v :: vs, q, SeqAt.cons hloc hs, fun h2 => ?_, hF⟩
      simpa using hT h2
    | false =>
      have hr : Reach E.input (restoreState E X1 st).pt := by simpa using hX1.finv.2.1
      rw [(hloc.adv H).1 rfl] at hloc
      exact ⟨hX1.congr' (restore_pt_reach _ _ hr hpt), [], _, SeqAt.fail hloc, nofun, fun _ => restore_pt (E := E) _ pt hr hpt⟩

/-- ordered choice among operands (the base alternatives) -/
theorem bases_sat (ln cl : Nat) (bs : List Expr) (hlf : callsInL S bs = true) (hok : OkL own node isPred A.name bs)
    (i : Nat) (X : PState) (hX : OpInv E A rs m X) :
    (parseChoice E (parseExpr E f) ln cl bs i X).Sat
      (fun v ok X' => OpInv E A rs m X' ∧ AltAt E A bs X.pt ok v X'.pt) (fun _ => True) := by
  induction bs generalizing i X with
  | nil => exact ⟨hX.congr, by simpa using AltAt.nil X.pt⟩
  | cons b bs ih =>
    rw [parseChoice_cons, wrap_LR H.cfg]
    apply Outcome.Sat.bind (op_sat H f b (callsInL_cons.mp hlf).1 hok.1 (pushV X) hX.congr)
    intro v ok X1 ⟨hloc, hX1⟩
    cases ok with
    | true => exact ⟨hX1.congr, AltAt.hit hloc⟩
    | false =>
      have hpt1 : X1.pt = X.pt := (hloc.adv H).1 rfl
      have hp2 : (restoreState E (popV X1) X.state).pt = X.pt := by simpa using hpt1
      exact (ih (callsInL_cons.mp hlf).2 hok.2 (i + 1) _ hX1.congr).imp
        fun v2 ok2 X2 ⟨hX2, hA⟩ => ⟨hX2, AltAt.miss (hpt1 ▸ hloc) (hp2 ▸ hA)⟩

/-- a reference to `A` where the table holds a seed for it: the seed is the answer -/
theorem ref_hit (rid : Nat) (X : PState) (last : MemoVal) (hg : getMemoized X (.rule A.name) = some last) :
    (parseExpr E f (.ruleRef rid A.name) X).Sat
      (fun v ok X' => v = last.v ∧ ok = last.b ∧ X' = restore (bump X) last.end) (fun _ => True) := by
  cases f with
  | zero => trivial
  | succ f =>
    rw [parseExpr_nobudget H.cfg.nobudget]
    dsimp only [parseExprBody, parseRuleRef]
    split
    · trivial
    · rw [H.find]
      simp only []
      rw [ruleWrap_lr H.cfg, H.ld, if_pos rfl, parseRuleLeader_hit (s := bump X) hg]
      exact ⟨rfl, rfl, rfl⟩

/-- the alternative `A t`, with a seed for `A` in the table: the tail `t` is evaluated from the end of the seed -/
theorem recAlt_sat (sid rid : Nat) (t : List Expr) (hlf : callsInL S t = true) (hok : OkL own node isPred A.name t)
    (last : MemoVal) (hle : Reach E.input last.end) (X : PState) (hX : OpInv E A rs m X)
    (hg : getMemoized X (.rule A.name) = some last) :
    (parseExpr E f (.seq sid (.ruleRef rid A.name :: t)) X).Sat
      (fun v ok X' => OpInv E A rs m X' ∧ (ok = true → last.b = true) ∧ (ok = false → X'.pt = X.pt) ∧
        (last.b = true → ∃ vs q, SeqAt E A t last.end ok vs q ∧ (ok = true → v = .list (last.v :: vs) ∧ X'.pt = q)))
      (fun _ => True) := by
  cases f with
  | zero => trivial
  | succ f =>
    rw [parseExpr_nobudget H.cfg.nobudget]
    dsimp only [parseExprBody]
    rw [parseSeq_cons, wrap_LR H.cfg]
    apply Outcome.Sat.bind (ref_hit H f rid (bump X) last hg)
    intro v ok X2 ⟨hv, hok2, hX2⟩
    subst hv hok2 hX2
    have hreach : Reach E.input X.pt := hX.finv.2.1
    have hr2 := restore_pt_reach (bump (bump X)) last.end hreach hle
    cases hb : last.b with
    | false =>
      exact ⟨hX.congr' (restore_pt_reach _ _ (by simpa using hr2) hreach), nofun,
        fun _ => restore_pt (E := E) _ _ (by simpa using hr2) hreach, nofun⟩
    | true =>
      have hp2 : (restore (bump (bump X)) last.end).pt = last.end := restore_pt (E := E) _ _ hreach hle
      refine (seq_sat H f (bump X).pt hreach (bump X).state t hlf hok _ [last.v] (hX.congr' hr2)).imp
        fun v2 ok2 X3 ⟨hX3, vs, q, hs, hT, hF⟩ => ⟨hX3, fun _ => rfl, hF, fun _ => ⟨vs, q, hp2 ▸ hs, hT⟩⟩

/-- one growth attempt, below the rule: the recursive alternatives in order, then the bases -/
theorem alts_sat (ln cl : Nat) (last : MemoVal) (hle : Reach E.input last.end) (r : List (Nat × Nat × List Expr))
    (hr : ∀ a ∈ r, a ∈ ra) (hok : OkL own node isPred A.name (r.map (mkAlt A.name) ++ bases)) (i : Nat) (X : PState)
    (hX : OpInv E A rs m X) (hg : getMemoized X (.rule A.name) = some last) :
    (parseChoice E (parseExpr E f) ln cl (r.map (mkAlt A.name) ++ bases) i X).Sat
      (fun v ok X' => OpInv E A rs m X' ∧
        ((ok = true ∧ last.b = true ∧ ∃ vs, TailsAt E A (r.map (·.2.2)) last.end (some (vs, X'.pt)) ∧
            v = .list (last.v :: vs) ∧ last.end.pos.off < X'.pt.pos.off) ∨
         ((last.b = true → TailsAt E A (r.map (·.2.2)) last.end none) ∧ AltAt E A bases X.pt ok v X'.pt)))
      (fun _ => True) := by
  induction r generalizing i X with
  | nil =>
    exact (bases_sat H f ln cl bases H.bases_lf hok i X hX).imp
      fun v ok X' ⟨h1, h2⟩ => ⟨h1, Or.inr ⟨fun _ => TailsAt.nil _, h2⟩⟩
  | cons a r ih =>
    rw [List.map_cons, List.cons_append, parseChoice_cons, wrap_LR H.cfg]
    have ha := hr a List.mem_cons_self
    apply Outcome.Sat.bind (recAlt_sat H f a.1 a.2.1 a.2.2 (H.tails_lf a ha) hok.1.2.2 last hle (pushV X) hX.congr hg)
    intro v ok X1 ⟨hX1, hb, hfail, hs⟩
    cases ok with
    | true =>
      obtain ⟨vs, q, hs, hT⟩ := hs (hb rfl)
      obtain ⟨hv, rfl⟩ := hT rfl
      refine ⟨hX1.congr, Or.inl ⟨rfl, hb rfl, vs, TailsAt.hit hs, hv, ?_⟩⟩
      obtain ⟨h1, h2⟩ := hs.adv H rfl
      rw [H.tails_nn a ha] at h2
      exact Nat.lt_of_le_of_ne h1 fun he => Bool.noConfusion (h2 he.symm)
    | false =>
      have hX2 : OpInv E A rs m (restoreState E (popV X1) X.state) := hX1.congr
      have hp2 : (restoreState E (popV X1) X.state).pt = X.pt := by simpa using hfail rfl
      have hg2 : getMemoized (restoreState E (popV X1) X.state) (.rule A.name) = some last := by
        rw [getMemoized_congr (s := X) (by rw [hX2.memo, hX.memo]) (by rw [hp2])]; exact hg
      refine (ih (fun a' ha' => hr a' (List.mem_cons_of_mem _ ha')) hok.2 (i + 1) _ hX2 hg2).imp
        fun v2 ok2 X3 ⟨hX3, hpost⟩ => ⟨hX3, ?_⟩
      rw [hp2] at hpost
      rcases hpost with ⟨h1, hb, vs, ht, hv, hlt⟩ | ⟨ht, ha⟩
      · obtain ⟨vs', q', hs', _⟩ := hs hb
        exact Or.inl ⟨h1, hb, vs, TailsAt.miss hs' ht, hv, hlt⟩
      · exact Or.inr ⟨fun hb => (hs hb).elim fun vs' h => h.elim fun q' hs' => TailsAt.miss hs'.1 (ht hb), ha⟩

end attempt

/-- one growth attempt: the rule's body with a seed for `A` in the table -/
theorem attempt_sat (f : Nat) (last : MemoVal) (hle : Reach E.input last.end) (s1 : PState) (hi : FInv E s1)
    (hg : getMemoized s1 (.rule A.name) = some last) :
    (parseRule E (parseExpr E f) A s1).Sat
      (fun v ok s2 => FInv E s2 ∧ s2.memo = s1.memo ∧ s2.rstack = s1.rstack ∧
        ((ok = true ∧ last.b = true ∧ ∃ vs, TailsAt E A (ra.map (·.2.2)) last.end (some (vs, s2.pt)) ∧
            v = .list (last.v :: vs) ∧ last.end.pos.off < s2.pt.pos.off) ∨
         ((last.b = true → TailsAt E A (ra.map (·.2.2)) last.end none) ∧ AltAt E A bases s1.pt ok v s2.pt ∧
            (ok = false → s2.pt = s1.pt))))
      (fun _ => True) := by
  rw [parseRule_eq, wrap_LR H.cfg, H.shape]
  cases f with
  | zero => trivial
  | succ f =>
    rw [parseExpr_nobudget H.cfg.nobudget]
    dsimp only [parseExprBody]
    have hok := H.okG A.name A H.find
    rw [H.shape] at hok
    refine Outcome.Sat.bind (alts_sat H (rs := s1.rstack) (m := s1.memo) f line col last hle ra (fun _ h => h) hok.2 0 _ ?_ ?_) ?_
    · exact ⟨hi.congr rfl rfl, rfl, rfl⟩
    · exact hg
    · intro v ok X' ⟨hX', hpost⟩
      exact ⟨hX'.finv.congr rfl rfl, hX'.memo, congrArg List.tail hX'.stack,
        hpost.imp id fun ⟨ht, ha⟩ => ⟨ht, ha, fun hb => by subst hb; exact ha.fail_inv.2⟩⟩

/-- the seed-growing loop computes the iteration -/
theorem loop_iter (f : Nat) (p0 : Savepoint) (hp0 : Reach E.input p0) :
    ∀ (k depth : Nat) (last : MemoVal) (lastErrs : List String) (s : PState), FInv E s → s.pt = p0 →
      Reach E.input last.end →
      (depth = 0 → last.b = false ∧ last.v = .nil ∧ last.end = p0) →
      (depth ≠ 0 → last.b = true ∧ ∃ v1 p1, AltAt E A bases p0 true v1 p1 ∧ p1.pos.off ≤ last.end.pos.off ∧
        ∀ qf vf, Reps E A (ra.map (·.2.2)) last.end last.v qf vf → Reps E A (ra.map (·.2.2)) p1 v1 qf vf) →
      (leaderLoop E (parseExpr E f) A p0 k depth last lastErrs s).Sat
        (fun v ok s' => Iter E A (ra.map (·.2.2)) bases p0 ok v s'.pt) (fun _ => True) := by
  intro k
  induction k with
  | zero => intros; trivial
  | succ k ih =>
    intro depth last lastErrs s hi hpt hle h0 h1
    rw [leaderLoop_succ]
    have hlf : last.b = false → last.end.pos.off = p0.pos.off := fun hb => by
      by_cases hd : depth = 0
      · rw [(h0 hd).2.2]
      · rw [(h1 hd).1] at hb; cases hb
    have hg : getMemoized (setMemoized s p0 (.rule A.name) last) (.rule A.name) = some last := by
      simp [getMemoized, setMemoized, hpt]
    apply Outcome.Sat.bind (attempt_sat H f last hle _ (hi.setMemo p0 _ hlf hle) hg)
    intro v ok s2 ⟨hi2, _, _, hpost⟩
    rw [show (setMemoized s p0 (.rule A.name) last).pt = p0 from hpt] at hpost
    -- where the loop stops the seed is the result
    have hfin : (setMemoized (restore { restoreState E s2 s.state with errs := lastErrs } last.end) p0 (.rule A.name)
        last).pt = last.end := restore_pt (E := E) _ _ (by simpa using hi2.2.1) hle
    -- where it goes on the longer match is the seed
    have hgo := ih (depth + 1) { v := v, b := ok, «end» := s2.pt } s2.errs (restore s2 p0)
      (hi2.congr' (restore_pt_reach _ _ hi2.2.1 hp0) (by simp)) (restore_pt (E := E) _ _ hi2.2.1 hp0) hi2.2.1
      (fun h => by omega)
    rcases hpost with ⟨rfl, hb, vs, ht, hv, hlt⟩ | ⟨ht, ha, _⟩
    · -- a tail matched after the seed
      have hd : depth ≠ 0 := fun hd => by rw [(h0 hd).1] at hb; cases hb
      obtain ⟨_, v1, p1, hA, hle1, hG⟩ := h1 hd
      rw [if_neg (by simp [Nat.not_le.mpr hlt])]
      exact hgo fun _ => ⟨rfl, v1, p1, hA, by simp only []; omega, fun qf vf hgr => hG qf vf (Reps.step ht hlt (hv ▸ hgr))⟩
    · by_cases hd : depth = 0
      · -- the first round: one of the bases, or none
        obtain ⟨hb, hv, he⟩ := h0 hd
        cases ok with
        | false =>
          obtain ⟨hvn, hq⟩ := ha.fail_inv
          rw [if_pos (by rfl)]
          show Iter _ _ _ _ _ _ _ _
          rw [hfin, hb, hv, he]
          exact Or.inl ⟨rfl, by rw [hvn, hq] at ha; exact ha⟩
        | true =>
          rw [if_neg (by simp [hd])]
          exact hgo fun _ => ⟨rfl, v, s2.pt, ha, Nat.le_refl _, fun _ _ h => h⟩
      · -- a later round in which no tail matched after the seed: one of the bases matched again, and no further
        obtain ⟨hb, v1, p1, hA, hle1, hG⟩ := h1 hd
        obtain ⟨rfl, _, hq⟩ := ha.det hA
        rw [if_pos (by simp [hq, hle1, hd])]
        show Iter _ _ _ _ _ _ _ _
        rw [hfin, hb]
        exact Or.inr ⟨rfl, v1, p1, hA, hG _ _ (Reps.stop (ht hb))⟩

/-- **A directly left-recursive leader parses as the iteration it denotes.** -/
theorem leader_iter (f k : Nat) (s : PState) (hi : FInv E s) (hnone : getMemoized s (.rule A.name) = none) :
    (parseRuleLeader E (parseExpr E f) k A s).Sat
      (fun v ok s' => Iter E A (ra.map (·.2.2)) bases s.pt ok v s'.pt) (fun _ => True) := by
  rw [parseRuleLeader_miss hnone]
  exact loop_iter H f s.pt hi.2.1 k 0 _ s.errs s hi rfl hi.2.1 (fun _ => ⟨rfl, rfl, rfl⟩) (fun h => absurd rfl h)

end main

end RT
end PV
