/-
  Termination: what it means for an evaluation to return, and the pieces of the interpreter that return whatever the
  recursive calls do. The termination theorem itself is in `Proofs/TermMemo.lean`.
-/
import PigeonVerif.Proofs.FrameProof

namespace PV

def Outcome.Term (o : Outcome) : Prop := o ≠ .oof

/-- the evaluation returned, and `Q` holds if it returned normally -/
def Outcome.Ends (o : Outcome) (Q : Val → Bool → PState → Prop) : Prop :=
  match o with
  | .oof => False
  | .done v ok s' => Q v ok s'
  | .panic _ _ => True

theorem Outcome.Term.done {v : Val} {ok : Bool} {s : PState} : (Outcome.done v ok s).Term := nofun
theorem Outcome.Term.panic {p : PanicVal} {s : PState} : (Outcome.panic p s).Term := nofun

theorem Outcome.Ends.term {o : Outcome} {Q : Val → Bool → PState → Prop} (h : o.Ends Q) : o.Term := by
  cases o with
  | oof => exact h.elim
  | done => exact .done
  | panic => exact .panic

theorem Outcome.Term.ite {c : Prop} [Decidable c] {a b : Outcome} (ha : c → a.Term) (hb : ¬ c → b.Term) :
    (if c then a else b).Term := iteInduction (motive := Outcome.Term) ha hb

/-- every iteration and every nested call is a `bind` on a call that returns -/
theorem Outcome.Ends.bind_term {o : Outcome} {k : Val → Bool → PState → Outcome} {Q : Val → Bool → PState → Prop}
    (h : o.Ends Q) (hk : ∀ v ok s', Q v ok s' → (k v ok s').Term) : (o.bind k).Term := by
  cases o with
  | oof => exact h.elim
  | panic p s' => exact Outcome.Term.panic
  | done v ok s' => exact hk v ok s' h

/-- `Outcome.Term` written out; the continuation is asked about what `o` returned only -/
theorem RT.bind_ne_oof {o : Outcome} {k : Val → Bool → PState → Outcome} (ho : o ≠ .oof)
    (hk : ∀ v ok s, o = .done v ok s → k v ok s ≠ .oof) : o.bind k ≠ .oof := by
  cases o with
  | oof => exact absurd rfl ho
  | panic p s => exact Outcome.Term.panic
  | done v ok s => exact hk v ok s rfl

theorem Outcome.Term.bind {o : Outcome} {k : Val → Bool → PState → Outcome} (h : o.Term)
    (hk : ∀ v ok s', (k v ok s').Term) : (o.bind k).Term :=
  RT.bind_ne_oof h fun v ok s' _ => hk v ok s'

theorem Outcome.Ends.bind {o : Outcome} {k : Val → Bool → PState → Outcome} {Q Q' : Val → Bool → PState → Prop}
    (h : o.Ends Q) (hk : ∀ v ok s', Q v ok s' → (k v ok s').Ends Q') : (o.bind k).Ends Q' := by
  cases o with
  | oof => exact h
  | panic p s' => trivial
  | done v ok s' => exact hk v ok s' h

theorem Outcome.Ends.mono {o : Outcome} {Q Q' : Val → Bool → PState → Prop} (h : o.Ends Q)
    (hq : ∀ v ok s', Q v ok s' → Q' v ok s') : o.Ends Q' := by
  cases o with
  | oof => exact h
  | panic p s' => trivial
  | done v ok s' => exact hq v ok s' h

theorem Outcome.Ends.ite {c : Prop} [Decidable c] {a b : Outcome} {Q : Val → Bool → PState → Prop}
    (ha : c → a.Ends Q) (hb : ¬ c → b.Ends Q) : (if c then a else b).Ends Q :=
  iteInduction (motive := (Outcome.Ends · Q)) ha hb

theorem Outcome.Ends.and_sat {o : Outcome} {Q Q' : Val → Bool → PState → Prop} {P : PState → Prop}
    (h : o.Ends Q) (h' : o.Sat Q' P) : o.Ends fun v ok s' => Q' v ok s' ∧ Q v ok s' := by
  cases o with
  | oof => exact h
  | panic p s' => trivial
  | done v ok s' => exact ⟨h', h⟩

namespace RT

section
variable {E : Env} {rec : Expr → PState → Outcome}

/-- what is assumed of the recursive calls -/
structure RecOK (E : Env) (rec : Expr → PState → Outcome) (n c0 : Nat) : Prop where
  frame : ∀ e s, FrameInv E s (rec e s)
  strict : ∀ e s v ok s', MemoOK s → rec e s = .done v ok s' → s.exprCnt + 1 ≤ s'.exprCnt
  term : ∀ e s, MemoOK s → c0 ≤ s.exprCnt → s.exprCnt ≤ n → (rec e s).Term

theorem runCodeBlock_term (blk : Nat) (s : PState) (k : BlockResult → PState → Outcome)
    (hk : ∀ r s2, (k r s2).Term) : (runCodeBlock E blk s k).Term :=
  runCodeBlock_cases (Q := Outcome.Term) (fun _ _ => .panic) fun _ => hk _ _

theorem lit_term (start : Savepoint) (want : String) (ic : Bool) (rs : List Rune) :
    ∀ (s : PState), (parseLit E start want ic rs s).Term := by
  induction rs with
  | nil => exact fun _ => .done
  | cons r rs ih => exact fun s => .ite (fun _ => .done) (fun _ => ih _)

/-- the six forms without a sub-expression or a rule return whatever `rec` is -/
theorem leaf_term (rec : Expr → PState → Outcome) (k : Nat) (e : Expr) (s : PState)
    (h : match e with
      | .andCode .. | .notCode .. | .stateCode .. | .any .. | .cls .. | .lit .. => True
      | _ => False) : (parseExprBody E rec k e s).Term := by
  cases e with
  | andCode id blk => exact runCodeBlock_term blk s _ fun _ _ => .done
  | notCode id blk => exact runCodeBlock_term blk s _ fun _ _ => .done
  | stateCode id blk => exact .ite (fun _ => .panic) (fun _ => runCodeBlock_term blk s _ fun _ _ => .done)
  | any id => exact parseAny_cases (Q := Outcome.Term) .done (fun _ => .done)
  | cls id c => exact parseCharClass_cases (Q := Outcome.Term) .done (fun _ => .done)
  | lit id val ic want => exact lit_term _ _ _ _ _
  | _ => exact h.elim

end

/-- `parseExpr` strictly advances the counter whenever it returns normally -/
theorem parseExpr_strict (E : Env) (f : Nat) (e : Expr) (s s' : PState) (v : Val) (ok : Bool)
    (hm : MemoOK s) (h : parseExpr E f e s = .done v ok s') : s.exprCnt + 1 ≤ s'.exprCnt := by
  cases f with
  | zero => nomatch h
  | succ f => exact ((body_frame (parseExpr_frame E f) f e (bump s) hm).done (parseExpr_succ h).2).stk.cnt

end RT
end PV
