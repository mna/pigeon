/-
  -optimize-parser when `Memoize` is off (the default) and the grammar has state-change blocks (GlobalState
  template): the optimized and the standard environment agree wherever the interpreter consults them
  (`SameEnv.withOptimize`), so by Proofs/Follows.lean with the trivial guard they compute the same function
  (`C10_equiv`). With `Memoize` off both expression wrappers are the bare recursive call and the rule dispatch does
  not look at `optimize`.
-/
import PigeonVerif.Proofs.Follows

namespace PV
namespace RT

/-- the same environment with the `Optimize` template switch set to `b` -/
def withOptimize (E : Env) (b : Bool) : Env := { E with flags := { E.flags with optimize := b } }

section
variable (E : Env) (b : Bool)

theorem useState_opt (hg : E.flags.globalState = true) : (withOptimize E b).useState = E.useState := by
  simp [Env.useState, withOptimize, hg]

theorem SameEnv.withOptimize (hmz : E.opts.memoize = false) (hg : E.flags.globalState = true) : SameEnv E (withOptimize E b) :=
  ⟨⟨useState_opt E b hg, rfl, rfl, rfl, rfl, rfl, rfl, rfl⟩, rfl,
    (memoize_off (E := RT.withOptimize E b) hmz).trans (memoize_off hmz).symm⟩

end

end RT
end PV
