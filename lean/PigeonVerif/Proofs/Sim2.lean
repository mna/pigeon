/-
  Two runs of the runtime model side by side.

  A *state relation* (`SRel`) is a relation between parser states that implies "same position, same
  innermost rule" and looks at nothing but position, rule stack, error list (and, on the left, the
  memo table). For grammars whose code blocks are pure functions of text and pos, take no labels, and
  which do not use throw/recover (`Ok`, `PureCode`), every construct of the runtime maps related states to
  related outcomes — provided the two wrappers (`parseExprWrap`, `parseRuleWrap`) do. The two wrappers
  are where memoization lives; they are supplied by the user of this file:

    * `Proofs/MemoSound.lean` instantiates it once with both runs un-memoized (locality: the result of an
      evaluation depends only on the position and the innermost rule) and once with a memoized run on the
      left and an un-memoized run on the right (soundness of the memo table).

  Outcomes are related up to the fuel of the RIGHT run: `ORel` holds when the right run ran out of fuel; otherwise
  the left run has ended too, and alike (so termination transfers from right to left).
-/
import PigeonVerif.Proofs.Frame
import PigeonVerif.Proofs.Basic

namespace PV

/-! ### the static side conditions -/

section static
variable (own : Nat → Option String) (node : Nat → Option Expr) (isPred : Nat → Bool)

/-- node identifiers are keys: `node id` is THE expression with that identifier, `own id` the rule it occurs in -/
def Keyed (rn : String) (e : Expr) : Prop := own e.id = some rn ∧ node e.id = some e

mutual
/-- every node of the expression is keyed (so identifiers are unique across the grammar and name their
    rule), there is no throw / recover, and predicate / state blocks are marked `isPred` -/
def Expr.Ok (rn : String) : Expr → Prop
  | .action id blk e => Keyed own node rn (.action id blk e) ∧ e.Ok rn
  | .andCode id blk => Keyed own node rn (.andCode id blk) ∧ isPred blk = true
  | .notCode id blk => Keyed own node rn (.notCode id blk) ∧ isPred blk = true
  | .stateCode id blk => Keyed own node rn (.stateCode id blk) ∧ isPred blk = true
  | .and id e => Keyed own node rn (.and id e) ∧ e.Ok rn
  | .not id e => Keyed own node rn (.not id e) ∧ e.Ok rn
  | .any id => Keyed own node rn (.any id)
  | .cls id c => Keyed own node rn (.cls id c)
  | .choice id l c es => Keyed own node rn (.choice id l c es) ∧ OkL rn es
  | .labeled id l e => Keyed own node rn (.labeled id l e) ∧ e.Ok rn
  | .lit id v ic w => Keyed own node rn (.lit id v ic w)
  | .oneOrMore id e => Keyed own node rn (.oneOrMore id e) ∧ e.Ok rn
  | .zeroOrMore id e => Keyed own node rn (.zeroOrMore id e) ∧ e.Ok rn
  | .zeroOrOne id e => Keyed own node rn (.zeroOrOne id e) ∧ e.Ok rn
  | .recovery _ _ _ _ => False
  | .ruleRef id n => Keyed own node rn (.ruleRef id n)
  | .seq id es => Keyed own node rn (.seq id es) ∧ OkL rn es
  | .throw _ _ => False
def OkL (rn : String) : List Expr → Prop
  | [] => True
  | e :: es => e.Ok rn ∧ OkL rn es
end

theorem Expr.Ok.keyed {rn : String} {e : Expr} (h : e.Ok own node isPred rn) : Keyed own node rn e := by
  -- unfolding by `simp only` (here `Expr.Ok`, in `OkL.mem` `OkL`) has Lean derive the equations in this module, where all
  -- later ones find them
  cases e <;> simp only [Expr.Ok] at h <;> first | exact h.1 | exact h | exact h.elim

end static

theorem OkL.mem {own : Nat → Option String} {node : Nat → Option Expr} {isPred : Nat → Bool} {rn : String} {a : Expr}
    {es : List Expr} (hes : OkL own node isPred rn es) (h : a ∈ es) : a.Ok own node isPred rn := by
  induction es with
  | nil => cases h
  | cons x xs ih =>
    simp only [OkL] at hes
    rcases List.mem_cons.mp h with rfl | h
    · exact hes.1
    · exact ih hes.2 h

namespace RT

/-- the same parser with the Memoize option set to `m` -/
def setMemo (E : Env) (m : Bool) : Env := { E with opts := { E.opts with memoize := m } }

/-- the code blocks are pure functions of `c.text` and `c.pos`, take no label arguments, and the predicate and
    state blocks (which see the text and pos of the most recent action, finding D2) do not even look at those -/
structure PureCode (E : Env) (isPred : Nat → Bool) : Prop where
  noargs : ∀ blk, E.code.args blk = []
  act : ∀ blk (c c' : Ctx), c.pos = c'.pos → c.text = c'.text →
    (E.code.run blk c).ret = (E.code.run blk c').ret ∧ (E.code.run blk c).retB = (E.code.run blk c').retB ∧
    (E.code.run blk c).err = (E.code.run blk c').err ∧ (E.code.run blk c).panic = (E.code.run blk c').panic
  pred : ∀ blk, isPred blk = true → ∀ (c c' : Ctx),
    (E.code.run blk c).ret = (E.code.run blk c').ret ∧ (E.code.run blk c).retB = (E.code.run blk c').retB ∧
    (E.code.run blk c).err = (E.code.run blk c').err ∧ (E.code.run blk c).panic = (E.code.run blk c').panic

/-- the configuration: standard template without left-recursion support, no budget -/
structure MemoCfg (E : Env) : Prop where
  noopt : E.flags.optimize = false
  nolr : E.flags.leftRec = false
  nobudget : E.opts.maxExpr = none

/-! ### state relations -/

structure SRel (E : Env) where
  rel : PState → PState → Prop
  pt : ∀ {a b}, rel a b → a.pt = b.pt
  hd : ∀ {a b}, rel a b → a.rstack.head? = b.rstack.head?
  reach : ∀ {a b}, rel a b → Reach E.input a.pt
  junk : ∀ {a b a' b'}, rel a b → a'.pt = a.pt → a'.rstack = a.rstack → a'.errs = a.errs → a'.memo = a.memo →
      b'.pt = b.pt → b'.rstack = b.rstack → b'.errs = b.errs → rel a' b'
  setPt : ∀ {a b} (p : Savepoint), rel a b → Reach E.input p → rel { a with pt := p } { b with pt := p }
  setRs : ∀ {a b} (l1 l2 : List Rule), rel a b → l1.head? = l2.head? →
      rel { a with rstack := l1 } { b with rstack := l2 }
  addErr : ∀ {a b} (m : String), rel a b → rel { a with errs := a.errs ++ [m] } { b with errs := b.errs ++ [m] }

/-- the state relation given by a relation `X` between the two error lists (and the left memo table) that survives
    reporting the same error on both sides: same reader position, same innermost rule, and `X` -/
def SRel.ofErrs (E : Env) (X : List String → List ((Nat × MemoKey) × MemoVal) → List String → Prop)
    (snoc : ∀ {ea mt eb} (m : String), X ea mt eb → X (ea ++ [m]) mt (eb ++ [m])) : SRel E where
  rel a b := a.pt = b.pt ∧ a.rstack.head? = b.rstack.head? ∧ Reach E.input a.pt ∧ X a.errs a.memo b.errs
  pt h := h.1
  hd h := h.2.1
  reach h := h.2.2.1
  junk h h1 h2 h3 h4 h5 h6 h7 := by rw [h1, h2, h3, h4, h5, h6, h7]; exact h
  setPt _ h hp := ⟨rfl, h.2.1, hp, h.2.2.2⟩
  setRs _ _ h hl := ⟨h.1, hl, h.2.2.1, h.2.2.2⟩
  addErr m h := ⟨h.1, h.2.1, h.2.2.1, snoc m h.2.2.2⟩

/-- related, and with the rule stacks of `s1`, `s2` -/
def SRel.relAt {E : Env} (R : SRel E) (s1 s2 a b : PState) : Prop :=
  R.rel a b ∧ a.rstack = s1.rstack ∧ b.rstack = s2.rstack

/-- outcomes related up to the fuel of the RIGHT run: if the right run ended, so did the left one, and alike; a normal
    return also leaves both rule stacks as they were in `s1`, `s2` -/
def ORel {E : Env} (R : SRel E) (s1 s2 : PState) (o1 o2 : Outcome) : Prop :=
  o2 = .oof ∨
  (∃ v ok a b, o1 = .done v ok a ∧ o2 = .done v ok b ∧ R.relAt s1 s2 a b) ∨
  (∃ p a b, o1 = .panic p a ∧ o2 = .panic p b ∧ R.rel a b)

section
variable {E : Env} {R : SRel E} {s1 s2 : PState}

theorem ORel.done {a b : PState} (v : Val) (ok : Bool) (h : R.relAt s1 s2 a b) : ORel R s1 s2 (.done v ok a) (.done v ok b) :=
  Or.inr (Or.inl ⟨v, ok, a, b, rfl, rfl, h⟩)

theorem ORel.panic {a b : PState} (p : PanicVal) (h : R.rel a b) : ORel R s1 s2 (.panic p a) (.panic p b) :=
  Or.inr (Or.inr ⟨p, a, b, rfl, rfl, h⟩)

theorem ORel.cases {s1 s2 : PState} {o1 o2 : Outcome} (h : ORel R s1 s2 o1 o2) :
    o2 = .oof ∨
    (∃ v ok a b, o1 = .done v ok a ∧ o2 = .done v ok b ∧ R.rel a b ∧ a.rstack = s1.rstack ∧ b.rstack = s2.rstack) ∨
    (∃ p a b, o1 = .panic p a ∧ o2 = .panic p b ∧ R.rel a b) := h

theorem ORel.bind {o1 o2 : Outcome} {k1 k2 : Val → Bool → PState → Outcome} {t1 t2 : PState}
    (h : ORel R t1 t2 o1 o2) (hk : ∀ v ok a b, R.relAt t1 t2 a b → ORel R s1 s2 (k1 v ok a) (k2 v ok b)) :
    ORel R s1 s2 (o1.bind k1) (o2.bind k2) := by
  rcases h.cases with rfl | ⟨v, ok, a, b, rfl, rfl, hr⟩ | ⟨p, a, b, rfl, rfl, hr⟩
  · exact Or.inl rfl
  · exact hk v ok a b hr
  · exact ORel.panic p hr

/-! ### the state operations keep `relAt` -/

namespace SRel.relAt
variable {a b a' b' : PState}

theorem refl (h : R.rel a b) : R.relAt a b a b := ⟨h, rfl, rfl⟩

/-- the two states may be replaced by any with the same position, rule stack, errors (and, on the left, memo table) -/
theorem junk (h : R.relAt s1 s2 a b)
    (ha : a'.pt = a.pt ∧ a'.rstack = a.rstack ∧ a'.errs = a.errs ∧ a'.memo = a.memo := by simp)
    (hb : b'.pt = b.pt ∧ b'.rstack = b.rstack ∧ b'.errs = b.errs := by simp) : R.relAt s1 s2 a' b' :=
  ⟨R.junk h.1 ha.1 ha.2.1 ha.2.2.1 ha.2.2.2 hb.1 hb.2.1 hb.2.2, ha.2.1.trans h.2.1, hb.2.1.trans h.2.2⟩

theorem pushV (h : R.relAt s1 s2 a b) : R.relAt s1 s2 (pushV a) (pushV b) := h.junk

theorem popV (h : R.relAt s1 s2 a b) : R.relAt s1 s2 (popV a) (popV b) := h.junk

theorem restore (h : R.relAt s1 s2 a b) (p : Savepoint) (hp : Reach E.input p) :
    R.relAt s1 s2 (RT.restore a p) (RT.restore b p) := by
  unfold RT.restore
  rw [← R.pt h.1]
  exact ite_rel (fun _ => h) fun _ => ⟨R.setPt p h.1 hp, h.2⟩

end SRel.relAt

theorem errPrefix_hd (E1 E2 : Env) (hf : E2.opts.filename = E1.opts.filename) {a b : PState}
    (h : a.rstack.head? = b.rstack.head?) (p : Pos) : errPrefix E1 a p = errPrefix E2 b p := by
  unfold errPrefix
  rw [hf]
  -- the two stacks are both empty or have the same top
  cases ha : a.rstack <;> cases hb : b.rstack <;> rw [ha, hb] at h <;> cases h <;> rfl

end

/-! ### the operations that read the environment -/

section env
variable {E : Env} {R : SRel E} {m1 m2 : Bool} {s1 s2 a b : PState}

namespace SRel.relAt

theorem addErrAt (h : R.relAt s1 s2 a b) (m : String) (p : Pos) :
    R.relAt s1 s2 (RT.addErrAt (setMemo E m1) a m p) (RT.addErrAt (setMemo E m2) b m p) := by
  unfold RT.addErrAt
  rw [errPrefix_hd (setMemo E m1) (setMemo E m2) rfl (R.hd h.1) p]
  exact ⟨R.addErr _ h.1, h.2⟩

theorem addErr (h : R.relAt s1 s2 a b) (m : String) :
    R.relAt s1 s2 (RT.addErr (setMemo E m1) a m) (RT.addErr (setMemo E m2) b m) := by
  unfold RT.addErr; rw [← R.pt h.1]; exact h.addErrAt m _

theorem addErrAtOpt (h : R.relAt s1 s2 a b) (o : Option String) (p : Pos) :
    R.relAt s1 s2 (RT.addErrAtOpt (setMemo E m1) a o p) (RT.addErrAtOpt (setMemo E m2) b o p) := by
  cases o with
  | none => exact h
  | some m => exact h.addErrAt m p

theorem addErrOpt (h : R.relAt s1 s2 a b) (o : Option String) :
    R.relAt s1 s2 (RT.addErrOpt (setMemo E m1) a o) (RT.addErrOpt (setMemo E m2) b o) := by
  unfold RT.addErrOpt; rw [← R.pt h.1]; exact h.addErrAtOpt o _

theorem restoreState (h : R.relAt s1 s2 a b) (st1 st2 : Store) :
    R.relAt s1 s2 (RT.restoreState (setMemo E m1) a st1) (RT.restoreState (setMemo E m2) b st2) := h.junk

/-- `read` on a position that is not the end of the input -/
theorem read (h : R.relAt s1 s2 a b) (hne : ¬ (a.pt.rn = runeError ∧ a.pt.w = 0)) :
    R.relAt s1 s2 (RT.read (setMemo E m1) a) (RT.read (setMemo E m2) b) := by
  have hw : a.pt.w ≠ 0 := fun hw => hne ⟨(R.reach h.1).w0 hw, hw⟩
  have hset : R.relAt s1 s2 { a with pt := nextPt E.input a.pt } { b with pt := nextPt E.input a.pt } :=
    ⟨R.setPt _ h.1 ((R.reach h.1).next hw), h.2⟩
  rw [read_eq, read_eq, ← R.pt h.1]
  exact ite_rel (fun _ => hset.addErr _) fun _ => hset

end SRel.relAt

theorem sliceFrom_rel (h : R.rel a b) (start : Savepoint) :
    sliceFrom (setMemo E m1) a start = sliceFrom (setMemo E m2) b start := by
  unfold sliceFrom; rw [R.pt h]; rfl

end env

/-! ### the constructs -/

/-- the expression wrappers of the two runs are related, wherever they are called inside a rule -/
def WrapRel {E : Env} (R : SRel E) (own : Nat → Option String) (node : Nat → Option Expr) (isPred : Nat → Bool)
    (w1 w2 : Expr → PState → Outcome) : Prop :=
  ∀ ⦃e a b rn r s1 s2⦄, R.relAt s1 s2 a b → e.Ok own node isPred rn → E.findRule rn = some r → s1.rstack.head? = some r →
    ORel R s1 s2 (w1 e a) (w2 e b)

/-- the rule wrappers of the two runs are related -/
def RuleRel {E : Env} (R : SRel E) (w1 w2 : Rule → PState → Outcome) : Prop :=
  ∀ ⦃n r a b s1 s2⦄, R.relAt s1 s2 a b → E.findRule n = some r → ORel R s1 s2 (w1 r a) (w2 r b)

section main
variable {E : Env} {R : SRel E} {m1 m2 : Bool} {own : Nat → Option String} {node : Nat → Option Expr} {isPred : Nat → Bool}
variable {rec1 rec2 : Expr → PState → Outcome}

variable {rn : String} {s1 s2 : PState}

theorem lit_rel (start : Savepoint) (hst : Reach E.input start) (want : String) (ic : Bool) (rs : List Rune) :
    ∀ a b : PState, R.relAt s1 s2 a b →
      ORel R s1 s2 (parseLit (setMemo E m1) start want ic rs a) (parseLit (setMemo E m2) start want ic rs b) := by
  induction rs with
  | nil =>
    intro a b h
    rw [parseLit_nil, parseLit_nil, sliceFrom_rel (m1 := m1) (m2 := m2) h.1 start]
    exact ORel.done _ _ h.junk
  | cons c rs ih =>
    intro a b h
    rw [parseLit_cons, parseLit_cons]
    unfold litCur
    rw [← R.pt h.1]
    exact ite_rel (fun _ => ORel.done _ _ (h.junk.restore start hst)) fun hc => ih _ _ (h.read fun hh => hc (by simp [hh.2]))

theorem rule_rel (hw : WrapRel R own node isPred (parseExprWrap (setMemo E m1) rec1) (parseExprWrap (setMemo E m2) rec2))
    (hG : ∀ n r, E.findRule n = some r → r.expr.Ok own node isPred n) :
    RuleRel R (parseRule (setMemo E m1) rec1) (parseRule (setMemo E m2) rec2) := by
  intro n r' a b s1 s2 h hfr
  rw [parseRule_eq, parseRule_eq]
  refine ORel.bind (hw (.refl (R.junk (R.setRs (r' :: a.rstack) (r' :: b.rstack) h.1 rfl) rfl rfl rfl rfl rfl rfl rfl))
    (hG n r' hfr) hfr rfl) fun v ok a' b' hr => ?_
  have ha : (popV a').rstack.tail = a.rstack := congrArg List.tail hr.2.1
  have hb : (popV b').rstack.tail = b.rstack := congrArg List.tail hr.2.2
  rw [ha, hb]
  exact ORel.done _ _ ⟨R.setRs a.rstack b.rstack hr.popV.1 (R.hd h.1), h.2.1, h.2.2⟩

variable (call : ∀ {e a b}, e.Ok own node isPred rn → R.relAt s1 s2 a b →
    ORel R s1 s2 (parseExprWrap (setMemo E m1) rec1 e a) (parseExprWrap (setMemo E m2) rec2 e b))
include call

theorem seq_rel (pt : Savepoint) (hpt : Reach E.input pt) (st1 st2 : Store) (es : List Expr) :
    ∀ (a b : PState) (acc : List Val), OkL own node isPred rn es → R.relAt s1 s2 a b →
      ORel R s1 s2 (parseSeq (setMemo E m1) rec1 pt st1 es a acc) (parseSeq (setMemo E m2) rec2 pt st2 es b acc) := by
  induction es with
  | nil => exact fun _ _ _ _ h => ORel.done _ _ h
  | cons e es ih =>
    intro a b acc hes h
    rw [parseSeq_cons, parseSeq_cons]
    exact (call hes.1 h).bind fun v ok a' b' hr =>
      ite_rel (fun _ => ih a' b' _ hes.2 hr) (fun _ => ORel.done _ _ (hr.junk.restore pt hpt))

theorem choice_rel (line col : Nat) (alts : List Expr) :
    ∀ (i : Nat) (a b : PState), OkL own node isPred rn alts → R.relAt s1 s2 a b →
      ORel R s1 s2 (parseChoice (setMemo E m1) rec1 line col alts i a) (parseChoice (setMemo E m2) rec2 line col alts i b) := by
  induction alts with
  | nil => exact fun _ _ _ _ h => ORel.done _ _ h.junk
  | cons alt alts ih =>
    intro i a b hes h
    rw [parseChoice_cons, parseChoice_cons]
    exact (call hes.1 h.pushV).bind fun v ok a' b' hr =>
      ite_rel (fun _ => ORel.done _ _ hr.junk) (fun _ => ih (i + 1) _ _ hes.2 hr.junk)

/-- the left run may go `d` deeper -/
theorem loop_rel (e : Expr) (he : e.Ok own node isPred rn) (k d : Nat) :
    ∀ (a b : PState) (acc : List Val), R.relAt s1 s2 a b →
      ORel R s1 s2 (parseLoop (setMemo E m1) rec1 e (k + d) a acc) (parseLoop (setMemo E m2) rec2 e k b acc) := by
  induction k with
  | zero => exact fun _ _ _ _ => Or.inl rfl
  | succ k ih =>
    intro a b acc h
    rw [Nat.succ_add, parseLoop_succ, parseLoop_succ]
    exact (call he h.pushV).bind fun v ok a' b' hr =>
      ite_rel (fun _ => ih _ _ _ hr.popV) (fun _ => ite_rel (fun _ => ORel.done _ _ hr.popV) (fun _ => ORel.done _ _ hr.popV))

end main


section terminals
variable {E : Env} {R : SRel E} {m1 m2 : Bool} {s1 s2 a b : PState}

theorem matchOne_rel (h : R.relAt s1 s2 a b) (hne : ¬ (a.pt.rn = runeError ∧ a.pt.w = 0)) (want : String) :
    ORel R s1 s2 (matchOne (setMemo E m1) a want) (matchOne (setMemo E m2) b want) := by
  have hr := h.read (m1 := m1) (m2 := m2) hne
  unfold matchOne
  simp only []
  rw [← R.pt h.1, sliceFrom_rel (m1 := m1) (m2 := m2) hr.1 a.pt]
  exact ORel.done _ _ hr.junk

theorem any_rel (h : R.relAt s1 s2 a b) : ORel R s1 s2 (parseAny (setMemo E m1) a) (parseAny (setMemo E m2) b) := by
  unfold parseAny
  rw [← R.pt h.1]
  exact ite_rel (fun _ => ORel.done _ _ h.junk) (fun hc => matchOne_rel h (by simpa using hc) ".")

theorem cls_rel (h : R.relAt s1 s2 a b) (c : ClassDesc) :
    ORel R s1 s2 (parseCharClass (setMemo E m1) c a) (parseCharClass (setMemo E m2) c b) := by
  have hfail : ORel R s1 s2 (.done .nil false (failAt a false a.pt.pos c.val)) (.done .nil false (failAt b false a.pt.pos c.val)) :=
    ORel.done _ _ h.junk
  unfold parseCharClass
  rw [← R.pt h.1]
  refine ite_rel (fun hc => ite_rel (fun _ => matchOne_rel h (fun hh => ?_) c.val) (fun _ => hfail))
    (fun _ => ite_rel (fun _ => hfail) (fun hne => ite_rel (fun _ => matchOne_rel h (by simpa using hne) c.val) (fun _ => hfail)))
  simp [hh.1, runeError] at hc

variable {isPred : Nat → Bool}

/-- one code-block invocation: same results, related states -/
theorem callBlock_rel (hp : PureCode E isPred) (h : R.relAt s1 s2 a b) (blk : Nat)
    (hsame : (a.curPos = b.curPos ∧ a.curText = b.curText) ∨ isPred blk = true) :
    ((callBlock (setMemo E m1) blk a).1.ret = (callBlock (setMemo E m2) blk b).1.ret ∧
     (callBlock (setMemo E m1) blk a).1.retB = (callBlock (setMemo E m2) blk b).1.retB ∧
     (callBlock (setMemo E m1) blk a).1.err = (callBlock (setMemo E m2) blk b).1.err ∧
     (callBlock (setMemo E m1) blk a).1.panic = (callBlock (setMemo E m2) blk b).1.panic) ∧
    R.relAt s1 s2 (callBlock (setMemo E m1) blk a).2 (callBlock (setMemo E m2) blk b).2 := by
  refine ⟨?_, h.junk⟩
  unfold callBlock
  rcases hsame with ⟨e1, e2⟩ | hpred
  · exact hp.act blk _ _ e1 e2
  · exact hp.pred blk hpred _ _

theorem runCodeBlock_rel (hp : PureCode E isPred) (h : R.relAt s1 s2 a b) (blk : Nat)
    (hpred : isPred blk = true) (k1 k2 : BlockResult → PState → Outcome)
    (hk : ∀ r r' a' b', r.retB = r'.retB → R.relAt s1 s2 a' b' → ORel R s1 s2 (k1 r a') (k2 r' b')) :
    ORel R s1 s2 (runCodeBlock (setMemo E m1) blk a k1) (runCodeBlock (setMemo E m2) blk b k2) := by
  obtain ⟨⟨_, c2, c3, c4⟩, c5⟩ := callBlock_rel (m1 := m1) (m2 := m2) hp h blk (Or.inr hpred)
  unfold runCodeBlock
  simp only []
  rw [c4, c3]
  cases (callBlock (setMemo E m2) blk b).1.panic with
  | some p => exact ORel.panic p c5.1
  | none => exact hk _ _ _ _ c2 (c5.addErrOpt _)

end terminals


section body
variable {E : Env} {R : SRel E} {m1 m2 : Bool} {own : Nat → Option String} {node : Nat → Option Expr} {isPred : Nat → Bool}
variable {rec1 rec2 : Expr → PState → Outcome}

theorem body_rel (hp : PureCode E isPred) {rn : String} {s1 s2 : PState}
    (call : ∀ {e a b}, e.Ok own node isPred rn → R.relAt s1 s2 a b →
      ORel R s1 s2 (parseExprWrap (setMemo E m1) rec1 e a) (parseExprWrap (setMemo E m2) rec2 e b))
    (k d : Nat)
    (rule : ∀ {n r a b}, E.findRule n = some r → R.relAt s1 s2 a b →
      ORel R s1 s2 (parseRuleWrap (setMemo E m1) rec1 (k + d) r a) (parseRuleWrap (setMemo E m2) rec2 k r b))
    (e : Expr) (a b : PState) (he : e.Ok own node isPred rn) (h : R.relAt s1 s2 a b) :
    ORel R s1 s2 (parseExprBody (setMemo E m1) rec1 (k + d) e a) (parseExprBody (setMemo E m2) rec2 k e b) := by
  have hpt : b.pt = a.pt := (R.pt h.1).symm
  have hreach := R.reach h.1
  cases e with
  | recovery id e1 r1 labels => exact he.elim
  | throw id label => exact he.elim
  | stateCode id blk =>
    exact ite_rel (fun _ => ORel.panic _ h.1)
      (fun _ => runCodeBlock_rel hp h blk he.2 _ _ fun _ _ _ _ _ hr => ORel.done _ _ hr)
  | andCode id blk | notCode id blk =>
    dsimp only [parseExprBody, parseAndCode, parseNotCode]
    refine runCodeBlock_rel hp h blk he.2 _ _ fun r r' a' b' hb' hr => ?_
    rw [hb']
    exact ORel.done _ _ hr.junk
  | any id => exact any_rel h
  | cls id c => exact cls_rel h c
  | lit id val ic want =>
    dsimp only [parseExprBody]
    rw [hpt]
    exact lit_rel a.pt hreach want ic val a b h
  | action id blk e1 =>
    refine (call he.2 h).bind fun v ok a' b' hr => ite_rel (fun _ => ?_) (fun _ => ORel.done _ _ hr)
    rw [hpt, sliceFrom_rel (m1 := m1) (m2 := m2) hr.1 a.pt]
    obtain ⟨⟨c1, _, c3, c4⟩, c5⟩ := callBlock_rel (m1 := m1) (m2 := m2) hp
      (hr.junk (a' := { a' with curPos := a.pt.pos, curText := sliceFrom (setMemo E m2) b' a.pt })
        (b' := { b' with curPos := a.pt.pos, curText := sliceFrom (setMemo E m2) b' a.pt })) blk (Or.inl ⟨rfl, rfl⟩)
    simp only []
    rw [c4, c3, c1]
    cases (callBlock (setMemo E m2) blk { b' with curPos := a.pt.pos, curText := sliceFrom (setMemo E m2) b' a.pt }).1.panic with
    | some p => exact ORel.panic p c5.1
    | none => exact ORel.done _ _ ((c5.addErrAtOpt _ _).restoreState _ _)
  | and id e1 | not id e1 =>
    refine (call he.2 h.junk).bind fun v ok a' b' hr => ?_
    rw [hpt]
    exact ORel.done _ _ ((hr.junk.restoreState _ _).restore a.pt hreach)
  | labeled id l e1 =>
    refine (call he.2 h.pushV).bind fun v ok a' b' hr => ?_
    exact ORel.done _ _ (ite_rel (fun _ => hr.junk) fun _ => hr.popV)
  | zeroOrOne id e1 =>
    exact (call he.2 h.pushV).bind fun v ok a' b' hr => ORel.done _ _ hr.popV
  | choice id line col alts =>
    exact choice_rel call line col alts 0 a b he.2 h
  | seq id es =>
    dsimp only [parseExprBody]
    rw [hpt]
    exact seq_rel call a.pt hreach _ _ es a b [] he.2 h
  | oneOrMore id e1 =>
    exact loop_rel call e1 he.2 k d a b [] h
  | zeroOrMore id e1 =>
    exact (loop_rel call e1 he.2 k d a b [] h).bind fun v ok a' b' hr =>
      ite_rel (fun _ => ORel.done _ _ hr) (fun _ => ORel.done _ _ hr)
  | ruleRef id name =>
    refine ite_rel (fun _ => ORel.panic _ h.1) (fun _ => ?_)
    show ORel R s1 s2 (match E.findRule name with | none => _ | some r => _) (match E.findRule name with | none => _ | some r => _)
    cases hfr : E.findRule name with
    | none => exact ORel.done _ _ (h.addErr _)
    | some r' => exact rule hfr h

theorem step_rel (hc : MemoCfg E) (hp : PureCode E isPred)
    (hw : WrapRel R own node isPred (parseExprWrap (setMemo E m1) rec1) (parseExprWrap (setMemo E m2) rec2))
    (k1 k2 : Nat) (hk : k2 ≤ k1)
    (hrw : RuleRel R (parseRuleWrap (setMemo E m1) rec1 k1) (parseRuleWrap (setMemo E m2) rec2 k2)) :
    WrapRel R own node isPred (parseExprStep (setMemo E m1) rec1 k1) (parseExprStep (setMemo E m2) rec2 k2) := by
  obtain ⟨d, rfl⟩ := Nat.exists_eq_add_of_le hk
  intro e a b rn r s1 s2 h he hf hh
  unfold parseExprStep
  rw [overBudget_none (E := setMemo E m1) hc.nobudget, overBudget_none (E := setMemo E m2) hc.nobudget]
  exact body_rel hp (fun he h => hw h he hf hh) k2 d (fun hfr h => hrw h hfr) e (bump a) (bump b) he
    ⟨R.junk h.1 rfl rfl rfl rfl rfl rfl rfl, h.2.1, h.2.2⟩

end body

end RT
end PV
