/-
  Support for the modules `PigeonVerif/Generated/G<sha>.lean`, which the check REGENERATES on every run from the
  grammars of the repository, one per distinct rule list (`pv/gram_check.py`; the translator half of the tie, DESIGN.md §0.8):

    grammar/pigeon.peg, grammar/bootstrap.peg and the grammar of every generation rule of the Makefile (examples, tests)
      --(the working tree's pigeon, with the rule's flags)-->  parser.go
      --(pvlower -readback: the `var g = &grammar{…}` literal, node by node)-->  case line
      --(pvdriver --emit-lean)-->  `def rules : List Rule := […]` + a witness `nl`, `rk` found by an untrusted search

  The obligations `checkRulesWF rules nl rk = true` (`Proofs/WFTerm.lean`; `checkRulesLRWF`, `Proofs/LRTerm.lean`) are closed
  by `decide +kernel`, i.e. evaluated by the kernel, and the lemmas below turn them into termination theorems for EVERY
  environment that has these rules: every input, every code environment, every entry point, every option except Memoize /
  MaxExpressions. `Properties.C04` is imported for `Back.checkArgs`, the `args_ok` obligation of the same modules.
-/
import PigeonVerif.Proofs.LRTerm
import PigeonVerif.Properties.C04

namespace PV
namespace RT

/-- **Regenerated grammars terminate** (parsers generated without `-support-left-recursion`). -/
theorem rules_wf_terminate {rules : List Rule} {nl : List String} {rk : List (String × Nat)}
    (h : checkRulesWF rules nl rk = true) (E : Env) (hr : E.rules = rules) (hm : E.opts.memoize = false)
    (hb : E.opts.maxExpr = none) : ∃ f, parse E f ≠ .oof :=
  wf_parse_terminates (checkWFG_sound (checkWFG_of_rules hr hm hb h))

/-- **Regenerated left-recursive grammars terminate** (parsers generated with `-support-left-recursion`). -/
theorem rules_lrwf_terminate {rules : List Rule} {nl : List String} {rk : List (String × Nat)}
    (h : checkRulesLRWF rules nl rk = true) (E : Env) (hr : E.rules = rules) (hl : E.flags.leftRec = true)
    (hm : E.opts.memoize = false) (hb : E.opts.maxExpr = none) : ∃ f, parse E f ≠ .oof :=
  lr_parse_terminates (checkLRWF_sound (checkLRWF_of_rules hr hl hm hb h))

end RT
end PV
