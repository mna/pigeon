/-
  The memo-hit counter: it never decreases, and under a budget `n` it never exceeds a bound `m ≥ n` on a normal
  return (a hit that would exceed the budget panics instead). Together with the expression counter
  this is the measure of the termination proof with memoization (Proofs/TermMemo.lean).
-/
import PigeonVerif.Proofs.Kept

namespace PV
namespace RT

/-- the hit counter grew, and stayed within the bound if it was within it -/
def HitsLe (n : Nat) (s s' : PState) : Prop := s.memoHits ≤ s'.memoHits ∧ (s.memoHits ≤ n → s'.memoHits ≤ n)

theorem HitsLe.refl (n : Nat) (s : PState) : HitsLe n s s := ⟨Nat.le_refl _, id⟩
theorem HitsLe.trans {n : Nat} {a b c : PState} (h1 : HitsLe n a b) (h2 : HitsLe n b c) : HitsLe n a c :=
  ⟨Nat.le_trans h1.1 h2.1, fun h => h2.2 (h1.2 h)⟩
theorem HitsLe.of_eq {n : Nat} {a b : PState} (h : b.memoHits = a.memoHits) : HitsLe n a b :=
  ⟨Nat.le_of_eq h.symm, fun h' => h ▸ h'⟩
theorem HitsLe.congr_left {n : Nat} {a a' b : PState} (h : HitsLe n a b) (hc : a'.memoHits = a.memoHits) : HitsLe n a' b :=
  (HitsLe.of_eq hc.symm).trans h

def _root_.PV.Outcome.HitsOK (n : Nat) (s : PState) : Outcome → Prop
  | .done _ _ s' => HitsLe n s s'
  | _ => True

/-- a memo hit that stays within the budget leaves the hit counter within any `m ≥ n`: `exprCnt + memoHits ≤ n ≤ m` -/
theorem hit_le {E : Env} {n m : Nat} (hn : E.opts.maxExpr = some n) (hm : n ≤ m) {s : PState}
    (hb : ¬ hitsOverBudget E (hit s) = true) : s.memoHits + 1 ≤ m := by
  have hle : s.exprCnt + (s.memoHits + 1) ≤ n := by simpa [hitsOverBudget, hn, hit] using hb
  exact Nat.le_trans (Nat.le_trans (Nat.le_add_left _ _) hle) hm

/-- only a memo hit writes the counter -/
theorem HitsLe.kept {E : Env} {n m : Nat} (hn : E.opts.maxExpr = some n) (hm : E.memoize = true → n ≤ m)
    (s0 : PState) : Kept E (HitsLe m s0) (fun _ => True) where
  pt _ _ h := h
  state _ _ h := h
  vstack _ _ h := h
  rstack _ _ h := h
  recov _ _ h := h
  invert _ _ h := h
  memo _ _ h := h
  errs _ _ h := h
  choiceCnt _ _ h := h
  cur _ _ h := h
  failAt _ _ _ _ h := failAt_writes .. ▸ h
  callBlock _ _ h := h
  bump _ h := h
  hit _ h hmz hb := h.trans ⟨Nat.le_succ _, fun _ => hit_le hn (hm hmz) hb⟩
  panicHit _ _ := trivial
  panic _ _ := trivial

/-- under a budget `n` the hit counter stays within any bound `m ≥ n`; a parser that does not memoize never moves it,
    so any `m` will do -/
theorem parseExpr_hits (E : Env) {n m : Nat} (hn : E.opts.maxExpr = some n) (hm : E.memoize = true → n ≤ m)
    (f : Nat) (e : Expr) (s : PState) : (parseExpr E f e s).HitsOK m s := by
  have := (HitsLe.kept hn hm s).parseExpr f e s (HitsLe.refl m s)
  revert this
  cases parseExpr E f e s <;> exact id

end RT
end PV
