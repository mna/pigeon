/-
  RT refines Spec: without memoization, left-recursive rules and a budget, the runtime model
  computes exactly what the PEG specification `Spec.eval` prescribes — same success/failure, same
  value, same end position, same label scope, same world (stores, recorded errors, every code-block
  invocation with its context) — for every grammar, code environment, input and fuel.
-/
import PigeonVerif.Proofs.SpecMono
import PigeonVerif.Proofs.FrameProof

namespace PV

namespace RT

/-- the part of the parser state the specification talks about -/
def absW (s : PState) : Spec.World :=
  { state := s.state, global := s.global, errs := s.errs, curPos := s.curPos, curText := s.curText,
    nCalls := s.nCalls, trace := s.trace, attempts := s.attempts }

def ctxOf (s : PState) : Spec.Ctx := { rule := s.rstack.head?, handlers := s.recoveryStack, neg := s.maxFailInvert }
def envOf (s : PState) : List (String × Val) := s.vstack.headD []

/-- the world of a panic: the state in which it was raised, and where -/
def absP (s : PState) : Spec.World := { absW s with site := some (s.rstack.head?, s.pt.pos) }

def abs : Outcome → Spec.Res
  | .oof => .oof
  | .panic p s => .panic p (absP s)
  | .done v true s => .ok v s.pt (envOf s) (absW s)
  | .done _ false s => .fail (envOf s) (absW s)

/-- states the parser can be in between expressions -/
structure Good (E : Env) (s : PState) : Prop where
  vne : s.vstack ≠ []
  ptinv : PtInv E s
  memo : MemoOK s

theorem absP_eq (s : PState) : absP s = Spec.panicAt (ctxOf s) s.pt (absW s) := rfl

def Refines (E : Env) (rec : Expr → PState → Outcome)
    (srec : Spec.Ctx → Expr → List (String × Val) → Savepoint → Spec.World → Spec.Res) : Prop :=
  ∀ e s, Good E s → abs (rec e s) = srec (ctxOf s) e (envOf s) s.pt (absW s)

/-! ### how the helpers act on the abstraction -/

@[simp] theorem absW_restore (s : PState) (pt : Savepoint) : absW (restore s pt) = absW s :=
  (congrArg absW (restore_writes s pt) :)
@[simp] theorem absW_pushV (s : PState) : absW (pushV s) = absW s := rfl
@[simp] theorem absW_popV (s : PState) : absW (popV s) = absW s := rfl
theorem absW_failAt (s : PState) (b : Bool) (p : Pos) (w : String) :
    absW (failAt s b p w) = Spec.note (ctxOf s) p w b (absW s) := by
  rw [failAt_writes]; rfl
@[simp] theorem absW_setMemoized (s : PState) (p : Savepoint) (k : MemoKey) (t : MemoVal) :
    absW (setMemoized s p k t) = absW s := rfl
@[simp] theorem absW_incChoiceAlt (s : PState) (l c : Nat) (a : Option Nat) : absW (incChoiceAlt s l c a) = absW s := rfl
@[simp] theorem absW_bump (s : PState) : absW (bump s) = absW s := rfl
@[simp] theorem absW_setLabel (s : PState) (l : String) (v : Val) : absW (setLabel s l v) = absW s :=
  (congrArg absW (setLabel_writes s l v) :)
@[simp] theorem absW_pushRecovery (s : PState) (l : List String) (r : Expr) : absW (pushRecovery s l r) = absW s := rfl
@[simp] theorem absW_popRecovery (s : PState) : absW (popRecovery s) = absW s := rfl

theorem absW_restoreState (E : Env) (s : PState) (st : Store) :
    absW (restoreState E s st) = Spec.rollback E (absW s) st :=
  apply_ite absW ..

@[simp] theorem envOf_pushV (s : PState) : envOf (pushV s) = [] := rfl
@[simp] theorem ctxOf_pushV (s : PState) : ctxOf (pushV s) = ctxOf s := rfl
@[simp] theorem ctxOf_bump (s : PState) : ctxOf (bump s) = ctxOf s := rfl
@[simp] theorem envOf_bump (s : PState) : envOf (bump s) = envOf s := rfl

theorem envOf_eq {s s' : PState} (h : s'.vstack = s.vstack) : envOf s' = envOf s := congrArg (·.headD []) h

@[simp] theorem envOf_restore (s : PState) (pt : Savepoint) : envOf (restore s pt) = envOf s := envOf_eq restore.vstack
@[simp] theorem envOf_restoreState (E : Env) (s : PState) (st : Store) : envOf (restoreState E s st) = envOf s := envOf_eq restoreState.vstack
@[simp] theorem envOf_incChoiceAlt (s : PState) (l c : Nat) (a : Option Nat) : envOf (incChoiceAlt s l c a) = envOf s := envOf_eq incChoiceAlt.vstack
@[simp] theorem envOf_failAt (s : PState) (b : Bool) (p : Pos) (w : String) : envOf (failAt s b p w) = envOf s := envOf_eq failAt.vstack
@[simp] theorem envOf_setMemoized (s : PState) (p : Savepoint) (k : MemoKey) (t : MemoVal) : envOf (setMemoized s p k t) = envOf s := envOf_eq setMemoized.vstack
@[simp] theorem envOf_read (E : Env) (s : PState) : envOf (read E s) = envOf s := envOf_eq read.vstack
@[simp] theorem envOf_addErrAtOpt (E : Env) (s : PState) (o : Option String) (p : Pos) : envOf (addErrAtOpt E s o p) = envOf s := envOf_eq addErrAtOpt.vstack
@[simp] theorem envOf_popRecovery (s : PState) : envOf (popRecovery s) = envOf s := envOf_eq popRecovery.vstack

theorem ctxOf_eq {s s' : PState} (h1 : s'.rstack = s.rstack) (h2 : s'.recoveryStack = s.recoveryStack)
    (h3 : s'.maxFailInvert = s.maxFailInvert) : ctxOf s' = ctxOf s := by unfold ctxOf; rw [h1, h2, h3]

section
variable {E : Env} {rec : Expr → PState → Outcome}
variable {srec : Spec.Ctx → Expr → List (String × Val) → Savepoint → Spec.World → Spec.Res}

theorem Good.of_framed {s s1 : PState} {ok : Bool} (hg : Good E s) (h : Framed E s ok s1) : Good E s1 := by
  refine ⟨?_, h.stk.ptinv hg.ptinv, h.memo⟩
  intro hnil
  have := h.stk.vlen
  rw [hnil] at this
  exact hg.vne (List.length_eq_zero_iff.mp this.symm)

theorem Framed.ctx {s s1 : PState} {ok : Bool} (h : Framed E s ok s1) : ctxOf s1 = ctxOf s :=
  ctxOf_eq h.stk.rstack h.stk.recov h.stk.invert

/-- a failure returns nil: what `e?` hands on when `e` fails -/
def _root_.PV.Outcome.NilFail : Outcome → Prop
  | .done v false _ => v = .nil
  | _ => True

/-- the simulation: the outcome is the specification's result, and a failure returns nil (`abs` forgets that value) -/
def Sim (o : Outcome) (r : Spec.Res) : Prop := abs o = r ∧ o.NilFail

theorem Sim.cast {o : Outcome} {r r' : Spec.Res} (h : Sim o r) (e : r = r') : Sim o r' := e ▸ h

@[simp] theorem sim_done (v : Val) (ok : Bool) (s : PState) (r : Spec.Res) :
    Sim (.done v ok s) r ↔ abs (.done v ok s) = r ∧ (ok = false → v = .nil) := by
  cases ok <;> simp [Sim, Outcome.NilFail]

/-- what is assumed of the recursive calls -/
structure RecSim (E : Env) (rec : Expr → PState → Outcome) (srec : Spec.Rec) : Prop where
  frame : ∀ e s, FrameInv E s (rec e s)
  sim : ∀ e s, Good E s → Sim (rec e s) (srec (ctxOf s) e (envOf s) s.pt (absW s))

theorem RecSim.ref (h : RecSim E rec srec) : Refines E rec srec := fun e s hg => (h.sim e s hg).1

section
variable {k : Val → Bool → PState → Outcome} {kok : Val → Savepoint → List (String × Val) → Spec.World → Spec.Res}
  {kfail : List (String × Val) → Spec.World → Spec.Res}

/-- **the simulation's rule for `bind`**: an outcome that simulates `r`, followed by a continuation, simulates the
    specification's `match` on `r` as soon as the continuation does on a match and on a failure; out-of-fuel and panic
    need no argument -/
theorem abs_bind {o : Outcome} {r : Spec.Res} (h : abs o = r)
    (hok : ∀ v s1, o = .done v true s1 → Sim (k v true s1) (kok v s1.pt (envOf s1) (absW s1)))
    (hfail : ∀ v s1, o = .done v false s1 → Sim (k v false s1) (kfail (envOf s1) (absW s1))) :
    Sim (o.bind k) (r.on kok kfail) := by
  subst h
  cases o with
  | oof => exact ⟨rfl, trivial⟩
  | panic p s1 => exact ⟨rfl, trivial⟩
  | done v ok s1 =>
    cases ok with
    | true => exact hok v s1 rfl
    | false => exact hfail v s1 rfl

/-- the rule for a recursive call: the continuation has the call's frame facts, and after a failure what the call
    returned (the forms that hand the value of a failed operand on, like `e?`, need to know that it is nil) -/
theorem sim_bind (hp : Plain E) (hfr : ∀ e s, FrameInv E s (rec e s)) (href : Refines E rec srec)
    (e : Expr) (s : PState) (hg : Good E s)
    (hok : ∀ v s1, Framed E s true s1 → Good E s1 → Sim (k v true s1) (kok v s1.pt (envOf s1) (absW s1)))
    (hfail : ∀ v s1, rec e s = .done v false s1 → Framed E s false s1 → Good E s1 → s1.pt = s.pt →
      Sim (k v false s1) (kfail (envOf s1) (absW s1))) :
    Sim ((parseExprWrap E rec e s).bind k) ((srec (ctxOf s) e (envOf s) s.pt (absW s)).on kok kfail) := by
  rw [wrap_eq hp.nomemo]
  refine abs_bind (href e s hg) (fun v s1 ho => ?_) (fun v s1 ho => ?_)
  all_goals have h2 := (hfr e s hg.memo).done ho
  · exact hok v s1 h2 (hg.of_framed h2)
  · exact hfail v s1 ho h2 (hg.of_framed h2) (h2.fail_pt hg.ptinv)

/-- the same under `RecSim`: the failed call returned nil -/
theorem sim_call (hp : Plain E) (hrec : RecSim E rec srec) (e : Expr) (s : PState) (hg : Good E s)
    (hok : ∀ v s1, Framed E s true s1 → Good E s1 → Sim (k v true s1) (kok v s1.pt (envOf s1) (absW s1)))
    (hfail : ∀ s1, Framed E s false s1 → Good E s1 → s1.pt = s.pt → Sim (k .nil false s1) (kfail (envOf s1) (absW s1))) :
    Sim ((parseExprWrap E rec e s).bind k) ((srec (ctxOf s) e (envOf s) s.pt (absW s)).on kok kfail) :=
  sim_bind hp hrec.frame hrec.ref e s hg hok fun v s1 ho h2 h3 h4 => by
    obtain rfl : v = .nil := (ho ▸ (hrec.sim e s hg).2 : Outcome.NilFail (.done v false s1))
    exact hfail s1 h2 h3 h4

end

theorem Good.congr {s s' : PState} (hg : Good E s) (hv : s'.vstack = s.vstack) (hpt : s'.pt = s.pt)
    (hm : s'.memo = s.memo) : Good E s' :=
  ⟨hv ▸ hg.vne, hg.ptinv.congr hpt hm, hg.memo.congr hm⟩

theorem Good.pushV {s : PState} (hg : Good E s) : Good E (pushV s) := ⟨List.cons_ne_nil _ _, hg.ptinv, hg.memo⟩

theorem popV_vstack_of_framed {s s1 : PState} {ok : Bool} (h : Framed E (RT.pushV s) ok s1) :
    (popV s1).vstack = s.vstack := h.stk.vtail

theorem Good.pop {s s1 : PState} {ok : Bool} (hg : Good E s) (h : Framed E (RT.pushV s) ok s1) : Good E (popV s1) :=
  ⟨popV_vstack_of_framed h ▸ hg.vne, h.stk.ptinv hg.ptinv, h.memo⟩

theorem envOf_pop {s s1 : PState} {ok : Bool} (h : Framed E (RT.pushV s) ok s1) : envOf (popV s1) = envOf s :=
  envOf_eq (popV_vstack_of_framed h)

/-! ### primitives -/

theorem errPrefix_spec (s : PState) (pos : Pos) (c : Spec.Ctx) (h : c.rule = s.rstack.head?) :
    errPrefix E s pos = Spec.errPrefix E c pos := by
  unfold errPrefix Spec.errPrefix
  rw [h]
  cases s.rstack <;> rfl

theorem absW_addErrAtOpt (s : PState) (o : Option String) (pos : Pos) :
    absW (addErrAtOpt E s o pos) = Spec.addErrAt E (ctxOf s) (absW s) o pos := by
  unfold addErrAtOpt Spec.addErrAt
  cases o with
  | none => rfl
  | some m => simp [addErrAt, absW, errPrefix_spec s pos (ctxOf s) rfl]

theorem absW_addErr (s : PState) (m : String) :
    absW (addErr E s m) = Spec.addErrAt E (ctxOf s) (absW s) (some m) s.pt.pos :=
  absW_addErrAtOpt s (some m) s.pt.pos

/-- `read` as the specification's `advance` -/
theorem read_advance (E : Env) (s : PState) :
    ((read E s).pt, absW (read E s)) = Spec.advance E (ctxOf s) s.pt (absW s) := by
  rw [read_eq, apply_ite (fun x => (x.pt, absW x)), absW_addErr]
  unfold Spec.advance
  -- as a variable: the unifier has no business inside `nextPt`
  generalize nextPt E.input s.pt = p
  exact ite_congr (by simp [and_assoc]) (fun _ => rfl) (fun _ => rfl)

@[simp] theorem ctxOf_read (s : PState) : ctxOf (read E s) = ctxOf s :=
  ctxOf_eq read.rstack read.recoveryStack read.maxFailInvert

/-- the literal loop is the specification's clause for a literal that started at `start` -/
theorem lit_sim (c : Spec.Ctx) (start : Savepoint) (want : String) (ic : Bool) (rs : List Rune) (s : PState)
    (hc : ctxOf s = c) :
    Sim (parseLit E start want ic rs s)
      (match Spec.evalLit E c ic rs s.pt (absW s) with
       | (some pt', w') => .ok (.bytes (Spec.slice E start pt')) pt' (envOf s) (Spec.note c start.pos want true w')
       | (none, w') => .fail (envOf s) (Spec.note c start.pos want false w')) := by
  induction rs generalizing s with
  | nil => simp [parseLit_nil, Spec.evalLit_nil, sliceFrom, Spec.slice, abs, absW_failAt, hc]
  | cons r rs ih =>
    subst hc
    rw [parseLit_cons, Spec.evalLit_cons, ← read_advance, litCur]
    refine iteInduction (motive := fun o => Sim o _) (fun h => ?_) (fun h => ?_)
    · rw [if_pos h]; simp [abs, absW_failAt]
    · rw [if_neg h]
      have := ih (read E s) (ctxOf_read s)
      rwa [envOf_read] at this

/-- the same read from the runtime's result: position and world after the literal, or a mismatch; in both cases the
    attempt is logged -/
theorem ref_lit (c : Spec.Ctx) (start : Savepoint) (want : String) (ic : Bool) :
    ∀ (rs : List Rune) (s : PState), ctxOf s = c →
      match parseLit E start want ic rs s with
      | .done v true s' => (Spec.evalLit E c ic rs s.pt (absW s)).1 = some s'.pt ∧
          absW s' = Spec.note c start.pos want true (Spec.evalLit E c ic rs s.pt (absW s)).2 ∧
          v = .bytes (Spec.slice E start s'.pt) ∧ envOf s' = envOf s
      | .done _ false s' => (Spec.evalLit E c ic rs s.pt (absW s)).1 = none ∧
          absW s' = Spec.note c start.pos want false (Spec.evalLit E c ic rs s.pt (absW s)).2 ∧ envOf s' = envOf s
      | _ => False := by
  intro rs s hc
  have h := (lit_sim (E := E) c start want ic rs s hc).1
  revert h
  generalize parseLit E start want ic rs s = o
  rcases Spec.evalLit E c ic rs s.pt (absW s) with ⟨_ | pt', w'⟩ <;> rcases o with _ | ⟨v, _ | _, s'⟩ | _ <;>
    intro h <;> injection h
  · next h1 h2 => exact ⟨rfl, h2, h1⟩
  · next h1 h2 h3 h4 => subst h2; exact ⟨rfl, h4, h1, h3⟩

theorem callBlock_spec (blk : Nat) (s : PState) :
    (callBlock E blk s).1 = (Spec.call E blk (envOf s) s.pt (absW s)).1 ∧
    absW (callBlock E blk s).2 = (Spec.call E blk (envOf s) s.pt (absW s)).2 := by
  unfold callBlock Spec.call envOf absW
  simp only []
  constructor <;> trivial

@[simp] theorem ctxOf_callBlock (blk : Nat) (s : PState) : ctxOf (callBlock E blk s).2 = ctxOf s :=
  ctxOf_eq callBlock.rstack callBlock.recoveryStack callBlock.maxFailInvert
@[simp] theorem envOf_callBlock (blk : Nat) (s : PState) : envOf (callBlock E blk s).2 = envOf s := envOf_eq callBlock.vstack
@[simp] theorem ctxOf_failAt (s : PState) (b : Bool) (p : Pos) (w : String) : ctxOf (failAt s b p w) = ctxOf s :=
  ctxOf_eq failAt.rstack failAt.recoveryStack failAt.maxFailInvert

theorem matchOne_spec (s : PState) (want : String) :
    abs (matchOne E s want) =
      (let a := Spec.advance E (ctxOf s) s.pt (absW s)
       .ok (.bytes (Spec.slice E s.pt a.1)) a.1 (envOf s) (Spec.note (ctxOf s) s.pt.pos want true a.2)) := by
  have h := read_advance E s
  unfold matchOne
  simp only [abs, ← h, absW_failAt, envOf_failAt, envOf_read, sliceFrom, Spec.slice, failAt.pt, ctxOf_read]

/-- a code block and what follows it: the call, the panic or the error it returned (recorded at `pos`), the continuation.
    `runCodeBlock E blk s k` is this at `s.pt.pos` -/
theorem ref_block (blk : Nat) (s : PState) (pos : Pos) (k : BlockResult → PState → Outcome)
    (sk : BlockResult → Spec.World → Spec.Res)
    (hk : ∀ r s2, envOf s2 = envOf s → s2.pt = s.pt → Sim (k r s2) (sk r (absW s2))) :
    Sim (let c := callBlock E blk s
         match c.1.panic with
         | some p => .panic p c.2
         | none => k c.1 (addErrAtOpt E c.2 c.1.err pos))
      (let r := Spec.call E blk (envOf s) s.pt (absW s)
       match r.1.panic with
       | some p => .panic p (Spec.panicAt (ctxOf s) s.pt r.2)
       | none => sk r.1 (Spec.addErrAt E (ctxOf s) r.2 r.1.err pos)) := by
  dsimp only
  obtain ⟨hr, hw⟩ := callBlock_spec (E := E) blk s
  rw [← hr, ← hw]
  cases (callBlock E blk s).1.panic with
  | some p => exact ⟨by simp only [abs, absP_eq, ctxOf_callBlock, callBlock.pt], trivial⟩
  | none =>
    have := hk (callBlock E blk s).1 (addErrAtOpt E (callBlock E blk s).2 (callBlock E blk s).1.err pos) (by simp) (by simp)
    rw [absW_addErrAtOpt] at this
    simpa using this

theorem abs_failTerm (s : PState) (want : String) :
    abs (.done .nil false (failAt s false s.pt.pos want)) =
      .fail (envOf s) (Spec.note (ctxOf s) s.pt.pos want false (absW s)) := by
  simp [abs, absW_failAt]

theorem ref_any (k id : Nat) (s : PState) :
    abs (parseAny E s) = Spec.evalStep E srec k (ctxOf s) (.any id) (envOf s) s.pt (absW s) := by
  dsimp only [Spec.evalStep]
  exact ite_rel (R := fun o r => abs o = r) (fun _ => abs_failTerm s ".") (fun _ => matchOne_spec s ".")

/-- the decision of `parseCharClass` is the one the specification computes (`isMember`, `isMatch`) -/
theorem classMatch_ite {α : Sort _} (bl eof t m inv : Bool) (x y : α) :
    (if bl then (if t != inv then x else y) else if eof then y else if m != inv then x else y) =
      if (if bl then (if bl then t else !eof && m) != inv else !eof && ((if bl then t else !eof && m) != inv))
      then x else y := by
  cases bl <;> cases eof <;> rfl

theorem ref_cls (k id : Nat) (cd : ClassDesc) (s : PState) :
    abs (parseCharClass E cd s) = Spec.evalStep E srec k (ctxOf s) (.cls id cd) (envOf s) s.pt (absW s) := by
  unfold parseCharClass
  dsimp only [Spec.evalStep, Spec.atEOF]
  rw [classMatch_ite]
  exact ite_rel (R := fun o r => abs o = r) (fun _ => matchOne_spec s cd.val) (fun _ => abs_failTerm s cd.val)

/-- `&e`, `!e`: whatever `e` did, back to the store and the position from before -/
theorem sim_back {s s2 : PState} (b : Bool) (hg : Good E s) (h2 : Reach E.input s2.pt) (he : envOf s2 = envOf s) :
    Sim (.done .nil b (restore (RT.restoreState E s2 s.state) s.pt))
      (if b then .ok .nil s.pt (envOf s) (Spec.rollback E (absW s2) s.state)
       else .fail (envOf s) (Spec.rollback E (absW s2) s.state)) := by
  have hpt := restore_pt (E := E) (RT.restoreState E s2 s.state) s.pt (by simpa using h2) hg.ptinv.1
  cases b <;> simp [abs, he, hpt, absW_restoreState]

theorem sim_not (hp : Plain E) (hfr : ∀ e s, FrameInv E s (rec e s)) (href : Refines E rec srec)
    (k id : Nat) (e1 : Expr) (s : PState) (hg : Good E s) :
    Sim (parseNot E rec e1 s) (Spec.evalStep E srec k (ctxOf s) (.not id e1) (envOf s) s.pt (absW s)) := by
  refine (sim_bind hp hfr href e1 (pushV { s with maxFailInvert := !s.maxFailInvert })
    (hg.congr (s' := { s with maxFailInvert := !s.maxFailInvert }) rfl rfl rfl).pushV ?_ ?_).cast rfl
  · intro v s1 h2 h3; exact sim_back false hg h3.ptinv.1 (envOf_pop h2 :)
  · intro v s1 _ h2 h3 _; exact sim_back true hg h3.ptinv.1 (envOf_pop h2 :)

theorem ref_not (hp : Plain E) (hfr : ∀ e s, FrameInv E s (rec e s)) (href : Refines E rec srec)
    (k id : Nat) (e1 : Expr) (s : PState) (hg : Good E s) :
    abs (parseNot E rec e1 s) = Spec.evalStep E srec k (ctxOf s) (.not id e1) (envOf s) s.pt (absW s) :=
  (sim_not hp hfr href k id e1 s hg).1

theorem envOf_setLabel {s : PState} (l : String) (v : Val) (h : s.vstack ≠ []) :
    envOf (setLabel s l v) = (l, v) :: envOf s := by
  unfold setLabel envOf
  cases hv : s.vstack with
  | nil => exact absurd hv h
  | cons m rest => simp

section
variable (hp : Plain E) (hrec : RecSim E rec srec)
include hp hrec

theorem ref_seq (c : Spec.Ctx) (pt0 : Savepoint) (st0 : Store) (es : List Expr) (s : PState) (acc : List Val)
    (hg : Good E s) (hc : ctxOf s = c) :
    Sim (parseSeq E rec pt0 st0 es s acc) (Spec.evalSeq E srec c st0 es (envOf s) s.pt (absW s) acc) := by
  induction es generalizing s acc with
  | nil => exact ⟨rfl, trivial⟩
  | cons e es ih =>
    subst hc
    refine (sim_call hp hrec e s hg ?_ ?_).cast rfl
    · intro v s1 h2 h3; exact ih s1 (v :: acc) h3 h2.ctx
    · intro s1 _ _ _; simp [abs, absW_restoreState]

theorem ref_choice (c : Spec.Ctx) (line col : Nat) (alts : List Expr) (i : Nat) (s : PState)
    (hg : Good E s) (hc : ctxOf s = c) :
    Sim (parseChoice E rec line col alts i s) (Spec.evalChoice E srec c alts (envOf s) s.pt (absW s)) := by
  induction alts generalizing i s with
  | nil => exact ⟨rfl, rfl⟩
  | cons alt alts ih =>
    subst hc
    refine (sim_call hp hrec alt (pushV s) hg.pushV ?_ ?_).cast rfl
    · intro v s1 h2 _
      simp [abs, envOf_pop h2]
    · intro s1 h2 _ h4
      have := ih (i + 1) (RT.restoreState E (popV s1) s.state)
        ((hg.pop h2).congr restoreState.vstack restoreState.pt restoreState.memo)
        ((ctxOf_eq restoreState.rstack restoreState.recoveryStack restoreState.maxFailInvert).trans h2.ctx)
      simp [envOf_pop h2, absW_restoreState, (h4 : s1.pt = s.pt)] at this
      exact this

theorem ref_loop (c : Spec.Ctx) (e : Expr) (k : Nat) (s : PState) (acc : List Val) (hg : Good E s) (hc : ctxOf s = c) :
    Sim (parseLoop E rec e k s acc) (Spec.evalLoop srec c e k (envOf s) s.pt (absW s) acc) := by
  induction k generalizing s acc with
  | zero => exact ⟨rfl, trivial⟩
  | succ k ih =>
    subst hc
    refine (sim_call hp hrec e (pushV s) hg.pushV ?_ ?_).cast rfl
    · intro v s1 h2 _; exact envOf_pop h2 ▸ ih (popV s1) (v :: acc) (hg.pop h2) h2.ctx
    · intro s1 h2 _ h4
      have h4' : s1.pt = s.pt := h4
      cases acc <;> simp [abs, envOf_pop h2, h4']

theorem ref_throw (c : Spec.Ctx) (label : String) (frames : List (List (String × Expr))) (s : PState)
    (hg : Good E s) (hc : ctxOf s = c) :
    Sim (parseThrow E rec label frames s) (Spec.evalThrow srec c label frames (envOf s) s.pt (absW s)) := by
  induction frames generalizing s with
  | nil => exact ⟨rfl, rfl⟩
  | cons fr frs ih =>
    rw [parseThrow_cons, Spec.evalThrow_cons]
    cases lookup label fr with
    | none => exact ih s hg hc
    | some r =>
      subst hc
      refine (sim_call hp hrec r s hg ?_ ?_).cast rfl
      · intro v s1 _ _; exact ⟨rfl, trivial⟩
      · intro s1 h2 h3 h4; exact h4 ▸ ih s1 h3 h2.ctx

theorem ref_action (k id blk : Nat) (e1 : Expr) (s : PState) (hg : Good E s) :
    Sim (parseAction E rec blk e1 s) (Spec.evalStep E srec k (ctxOf s) (.action id blk e1) (envOf s) s.pt (absW s)) := by
  refine (sim_call (kfail := .fail) (kok := fun _ pt' env' w1 =>
      let r := Spec.call E blk env' pt' { w1 with curPos := s.pt.pos, curText := Spec.slice E s.pt pt' }
      match r.1.panic with
      | some p => .panic p (Spec.panicAt (ctxOf s) pt' r.2)
      | none => .ok r.1.ret pt' env' (Spec.rollback E (Spec.addErrAt E (ctxOf s) r.2 r.1.err s.pt.pos) w1.state))
      hp hrec e1 s hg ?_ ?_).cast ?_
  · intro v s1 h2 _
    rw [← h2.ctx]
    exact (ref_block (E := E) blk { s1 with curPos := s.pt.pos, curText := sliceFrom E s1 s.pt } s.pt.pos
      (fun r s2 => .done r.ret true (RT.restoreState E s2 s1.state))
      (fun r w => .ok r.ret s1.pt (envOf s1) (Spec.rollback E w s1.state))
      fun r s2 he hpt => by simp [abs, absW_restoreState, he, hpt]; rfl).cast rfl
  · intro s1 _ _ _; exact ⟨rfl, rfl⟩
  · dsimp only [Spec.evalStep]; cases srec (ctxOf s) e1 (envOf s) s.pt (absW s) <;> rfl

theorem ref_ruleRef (k id : Nat) (name : String) (s : PState) (hg : Good E s) :
    Sim (parseRuleRef E rec k name s) (Spec.evalStep E srec k (ctxOf s) (.ruleRef id name) (envOf s) s.pt (absW s)) := by
  dsimp only [Spec.evalStep]
  refine ite_rel (fun _ => ⟨rfl, trivial⟩) fun _ => ?_
  cases hf : E.findRule name with
  | none => exact ⟨congrArg (Spec.Res.fail _) (absW_addErr s _), rfl⟩
  | some r =>
    dsimp only
    rw [ruleWrap_eq hp k name r hf]
    have he : ∀ {ok s1}, Framed E (pushV { s with rstack := r :: s.rstack }) ok s1 → envOf (popV s1) = envOf s :=
      fun h => (envOf_pop h :)
    refine (sim_call hp hrec r.expr (pushV { s with rstack := r :: s.rstack })
      (hg.congr (s' := { s with rstack := r :: s.rstack }) rfl rfl rfl).pushV ?_ ?_).cast rfl
    · intro _ s1 h2 _; exact ⟨by rw [← he h2]; rfl, trivial⟩
    · intro s1 h2 _ _; exact ⟨by rw [← he h2]; rfl, rfl⟩

theorem ref_zeroOrMore (k id : Nat) (e1 : Expr) (s : PState) (hg : Good E s) :
    Sim (parseZeroOrMore E rec k e1 s) (Spec.evalStep E srec k (ctxOf s) (.zeroOrMore id e1) (envOf s) s.pt (absW s)) := by
  have h := (ref_loop hp hrec (ctxOf s) e1 k s [] hg rfl).1
  refine (abs_bind (kok := .ok) (kfail := fun _ w' => .ok (.list []) s.pt (envOf s) w') h ?_ ?_).cast ?_
  · intro v s1 _; exact ⟨rfl, trivial⟩
  · intro v s1 ho
    -- position: the frame of the loop; scope: the specification's loop hands back its scope
    have hf := (loop_frame hrec.frame s e1 k s [] (.refl hg.memo false)).done ho
    have he := Spec.evalLoop_env (rec := srec) (ctxOf s) e1 (envOf s) k s.pt (absW s) []
    rw [← h, ho] at he
    simp [abs, hf.fail_pt hg.ptinv]
    exact he
  · dsimp only [Spec.evalStep]; cases Spec.evalLoop srec (ctxOf s) e1 k (envOf s) s.pt (absW s) [] <;> rfl

/-- one level: the runtime's type switch computes the specification's `evalStep` -/
theorem ref_body (k : Nat) (e : Expr) (s : PState) (hg : Good E s) :
    Sim (parseExprBody E rec k e s) (Spec.evalStep E srec k (ctxOf s) e (envOf s) s.pt (absW s)) := by
  -- `&{…}`, `!{…}`: `f` says which result of the block is a match
  have pred := fun blk (f : BlockResult → Bool) => ref_block (E := E) blk s s.pt.pos
    (fun r s2 => .done .nil (f r) (RT.restoreState E s2 s.state))
    (fun r w => if f r then .ok .nil s.pt (envOf s) (Spec.rollback E w s.state) else .fail (envOf s) (Spec.rollback E w s.state))
    fun r s2 he hpt => by cases f r <;> simp [abs, absW_restoreState, he, hpt]
  cases e with
  | action id blk e1 => exact ref_action hp hrec k id blk e1 s hg
  | andCode id blk => exact (pred blk (·.retB)).cast rfl
  | notCode id blk => exact (pred blk (!·.retB)).cast rfl
  | stateCode id blk =>
    dsimp only [Spec.evalStep]
    refine ite_rel (fun _ => ⟨rfl, trivial⟩) fun _ =>
      (ref_block (E := E) blk s s.pt.pos (fun _ s2 => .done .nil true s2) (fun _ w => .ok .nil s.pt (envOf s) w) ?_).cast rfl
    intro r s2 he hpt; simp [abs, he, hpt]
  | and id e1 =>
    refine (sim_call hp hrec e1 (pushV s) hg.pushV ?_ ?_).cast rfl
    · intro v s1 h2 h3; exact sim_back true hg h3.ptinv.1 (envOf_pop h2)
    · intro s1 h2 h3 _; exact sim_back false hg h3.ptinv.1 (envOf_pop h2)
  | not id e1 => exact sim_not hp hrec.frame hrec.ref k id e1 s hg
  | any id => exact ⟨ref_any k id s, parseAny_cases (Q := Outcome.NilFail) rfl fun _ => trivial⟩
  | cls id c => exact ⟨ref_cls k id c s, parseCharClass_cases (Q := Outcome.NilFail) rfl fun _ => trivial⟩
  | choice id line col alts => exact ref_choice hp hrec (ctxOf s) line col alts 0 s hg rfl
  | labeled id l e1 =>
    refine (sim_call hp hrec e1 (pushV s) hg.pushV ?_ ?_).cast rfl
    · intro v s1 h2 _
      by_cases hl : l = ""
      · simp [hl, abs, envOf_pop h2]
      · simp [hl, abs, envOf_setLabel l v (hg.pop h2).vne, envOf_pop h2]
    · intro s1 h2 _ _; simp [abs, envOf_pop h2]
  | lit id val ic want => exact lit_sim (ctxOf s) s.pt want ic val s rfl
  | oneOrMore id e1 => exact ref_loop hp hrec (ctxOf s) e1 k s [] hg rfl
  | zeroOrMore id e1 => exact ref_zeroOrMore hp hrec k id e1 s hg
  | zeroOrOne id e1 =>
    refine (sim_call hp hrec e1 (pushV s) hg.pushV ?_ ?_).cast rfl
    · intro v s1 h2 _; simp [abs, envOf_pop h2]
    · intro s1 h2 _ h4; simp [abs, envOf_pop h2]; exact h4
  | recovery id e1 r labels =>
    refine (sim_call (kok := .ok) (kfail := .fail) hp hrec e1 _ (hg.congr (s' := pushRecovery s labels r) rfl rfl rfl)
      ?_ ?_).cast (Spec.Res.on_id _)
    · intro v s1 _ _; simp [abs]
    · intro s1 _ _ _; simp [abs]
  | ruleRef id name => exact ref_ruleRef hp hrec k id name s hg
  | seq id es => exact ref_seq hp hrec (ctxOf s) s.pt s.state es s [] hg rfl
  | throw id label => exact ref_throw hp hrec (ctxOf s) label s.recoveryStack s hg rfl

end

end

theorem parseExpr_sim {E : Env} (hp : Plain E) (f : Nat) (e : Expr) (s : PState) (hg : Good E s) :
    Sim (parseExpr E f e s) (Spec.eval E f (ctxOf s) e (envOf s) s.pt (absW s)) := by
  induction f generalizing e s with
  | zero => exact ⟨rfl, trivial⟩
  | succ f ih =>
    rw [parseExpr_nobudget hp.nobudget]
    exact ref_body hp ⟨parseExpr_frame E f, ih⟩ f e (bump s) (hg.congr rfl rfl rfl)

/-- **Refinement theorem.** In the plain configuration (no memoization, no budget, no left-recursive
    rules) the runtime model IS the PEG specification: for every grammar, code environment, input,
    fuel, expression and reachable state, the outcome of `parseExpr` — success or failure, value,
    end position, labels in scope, stores, recorded errors and the complete trace of code-block
    invocations with the context each one saw — is the one `Spec.eval` prescribes. -/
theorem parseExpr_refines {E : Env} (hp : Plain E) : ∀ (f : Nat), Refines E (parseExpr E f) (Spec.eval E f) :=
  fun f e s hg => (parseExpr_sim hp f e s hg).1

end RT
end PV
