/-
  The bridge between the analysis side and the runtime side.

  `lowerA` forgets what the analysis does not look at (node identifiers, code, class members, literal text). On the
  throw/recover-free fragment the static notions of the termination theorems (`Expr.nul`, `Proofs/Advance.lean`;
  `Expr.first`, `Proofs/Conv.lean`) are the ones of the independent left-recursion specification of C07
  (`Mid.Spec.nullE`, `Mid.Spec.firstCalls`), and the specification's nullable-rule fixpoint `Mid.Spec.nullRules` is a
  closed oracle.
-/
import PigeonVerif.Proofs.SpecLemmas
import PigeonVerif.Proofs.WFTerm

namespace PV
open Mid

mutual
def lowerA : Expr → AExpr
  | .action _ _ e => .action false (lowerA e)
  | .andCode _ _ => .andCode
  | .notCode _ _ => .notCode
  | .stateCode _ _ => .stateCode
  | .and _ e => .and (lowerA e)
  | .not _ e => .not (lowerA e)
  | .any _ => .any
  | .cls _ _ => .cls false
  | .choice _ _ _ es => .choice false (lowerL es)
  | .labeled _ _ e => .labeled (lowerA e)
  | .lit _ v _ _ => .lit v.isEmpty
  | .oneOrMore _ e => .plus (lowerA e)
  | .zeroOrMore _ e => .star (lowerA e)
  | .zeroOrOne _ e => .opt (lowerA e)
  | .recovery _ e r _ => .recovery false (lowerA e) (lowerA r)
  | .ruleRef _ n => .ref false n
  | .seq _ es => .seq false (lowerL es)
  | .throw _ _ => .throw
def lowerL : List Expr → List AExpr
  | [] => []
  | e :: es => lowerA e :: lowerL es
end

mutual
/-- no throw, no recover -/
def Expr.noTR : Expr → Bool
  | .action _ _ e | .labeled _ _ e | .zeroOrOne _ e | .and _ e | .not _ e | .oneOrMore _ e | .zeroOrMore _ e => e.noTR
  | .choice _ _ _ es | .seq _ es => noTRL es
  | .recovery _ _ _ _ | .throw _ _ => false
  | .andCode _ _ | .notCode _ _ | .stateCode _ _ | .any _ | .cls _ _ | .lit _ _ _ _ | .ruleRef _ _ => true
def noTRL : List Expr → Bool
  | [] => true
  | e :: es => e.noTR && noTRL es
end

/-- the grammar as the analysis sees it -/
def lowerG (rules : List Rule) : AGrammar := rules.map (fun r => { name := r.name, expr := lowerA r.expr })

/-- the oracle given by a list of nullable rule names -/
def inList (N : List String) : String → Bool := fun n => N.contains n

mutual
/-- without throw / recover the lowering carries `Expr.nul` to `Spec.nullE` and `Expr.first` to `Spec.firstCalls` (as
    sets): the two sides are the same recursion, up to `++` for `union` -/
theorem lower_spec (N : List String) : (e : Expr) → e.noTR = true →
    Spec.nullE N (lowerA e) = e.nul (inList N) ∧ ∀ m, m ∈ Spec.firstCalls N (lowerA e) ↔ m ∈ e.first (inList N)
  | .action _ _ e | .labeled _ _ e | .oneOrMore _ e => lower_spec N e
  | .and _ e | .not _ e | .zeroOrOne _ e | .zeroOrMore _ e => fun h => ⟨rfl, (lower_spec N e h).2⟩
  | .choice _ _ _ es => lowerAny_spec N es
  | .seq _ es => lowerSeq_spec N es
  | .recovery .. | .throw .. => nofun
  | .ruleRef .. | .lit .. | .andCode .. | .notCode .. | .stateCode .. | .any _ | .cls .. => fun _ => ⟨rfl, fun _ => Iff.rfl⟩
theorem lowerAny_spec (N : List String) : (es : List Expr) → noTRL es = true →
    Spec.nullE.nullAny N (lowerL es) = nulAny (inList N) es ∧
      ∀ m, m ∈ Spec.firstCalls.callsAny N (lowerL es) ↔ m ∈ firstAny (inList N) es
  | [] => fun _ => ⟨rfl, fun _ => Iff.rfl⟩
  | e :: es => fun h =>
    have ⟨n1, f1⟩ := lower_spec N e (Bool.and_eq_true_iff.mp h).1
    have ⟨n2, f2⟩ := lowerAny_spec N es (Bool.and_eq_true_iff.mp h).2
    ⟨(congr (congrArg or n1) n2 :), fun m => (mem_union ..).trans ((or_congr (f1 m) (f2 m)).trans List.mem_append.symm)⟩
theorem lowerSeq_spec (N : List String) : (es : List Expr) → noTRL es = true →
    Spec.nullE.nullAll N (lowerL es) = nulAll (inList N) es ∧
      ∀ m, m ∈ Spec.firstCalls.callsSeq N (lowerL es) ↔ m ∈ firstSeq (inList N) es
  | [] => fun _ => ⟨rfl, fun _ => Iff.rfl⟩
  | e :: es => fun h => by
    obtain ⟨n1, f1⟩ := lower_spec N e (Bool.and_eq_true_iff.mp h).1
    obtain ⟨n2, f2⟩ := lowerSeq_spec N es (Bool.and_eq_true_iff.mp h).2
    refine ⟨(congr (congrArg and n1) n2 :), fun m => ?_⟩
    show m ∈ (if Spec.nullE N (lowerA e) then _ else _) ↔ m ∈ e.first (inList N) ++ (if e.nul (inList N) then _ else _)
    rw [n1]
    cases e.nul (inList N)
    · exact (f1 m).trans (by rw [if_neg Bool.false_ne_true, List.append_nil])
    · exact (mem_union ..).trans ((or_congr (f1 m) (f2 m)).trans List.mem_append.symm)
end

theorem nullE_lower (N : List String) : ∀ (sz : Nat) (e : Expr), e.size ≤ sz → e.noTR = true →
    Spec.nullE N (lowerA e) = e.nul (inList N) := fun _ e _ h => (lower_spec N e h).1

theorem firstCalls_lower (N : List String) (m : String) : ∀ (sz : Nat) (e : Expr), e.size ≤ sz → e.noTR = true →
    (m ∈ Spec.firstCalls N (lowerA e) ↔ m ∈ e.first (inList N)) := fun _ e _ h => (lower_spec N e h).2 m

mutual
theorem noTR_of_wfs (rn : String → Bool) : (e : Expr) → e.wfs rn = true → e.noTR = true
  | .action _ _ e | .labeled _ _ e | .and _ e | .not _ e | .zeroOrOne _ e => noTR_of_wfs rn e
  | .oneOrMore _ e | .zeroOrMore _ e => fun h => noTR_of_wfs rn e (Bool.and_eq_true_iff.mp h).2
  | .choice _ _ _ es | .seq _ es => noTRL_of_wfs rn es
  | .recovery .. | .throw .. => nofun
  | .ruleRef .. | .lit .. | .andCode .. | .notCode .. | .stateCode .. | .any _ | .cls .. => fun _ => rfl
theorem noTRL_of_wfs (rn : String → Bool) : (es : List Expr) → wfsL rn es = true → noTRL es = true
  | [] => fun _ => rfl
  | e :: es => fun h =>
    Bool.and_eq_true_iff.mpr ⟨noTR_of_wfs rn e (Bool.and_eq_true_iff.mp h).1, noTRL_of_wfs rn es (Bool.and_eq_true_iff.mp h).2⟩
end

/-! ### the nullable-rule fixpoint over the runtime's rules

The runtime-side twin of `Mid.nstep` / `Spec.nullRules.iter`, equal to it on the throw-free fragment (`lower_spec`);
`spec_acyclic_wfg` does not go through it but through `Mid.nullRules_closed`. -/

mutual
theorem nul_mono {rn rn' : String → Bool} (hr : ∀ n, rn n = true → rn' n = true) : (e : Expr) →
    e.nul rn = true → e.nul rn' = true
  | .action _ _ e | .labeled _ _ e | .oneOrMore _ e => nul_mono hr e
  | .choice _ _ _ es => nulAny_mono hr es
  | .seq _ es => nulAll_mono hr es
  | .ruleRef _ n => hr n
  | .recovery .. | .throw .. | .lit .. | .andCode .. | .notCode .. | .stateCode .. | .and .. | .not .. | .any _ | .cls ..
  | .zeroOrMore .. | .zeroOrOne .. => id
theorem nulAny_mono {rn rn' : String → Bool} (hr : ∀ n, rn n = true → rn' n = true) : (es : List Expr) →
    nulAny rn es = true → nulAny rn' es = true
  | [] => id
  | e :: es => fun h => Bool.or_eq_true_iff.mpr
    ((Bool.or_eq_true_iff.mp h).imp (nul_mono hr e) (nulAny_mono hr es))
theorem nulAll_mono {rn rn' : String → Bool} (hr : ∀ n, rn n = true → rn' n = true) : (es : List Expr) →
    nulAll rn es = true → nulAll rn' es = true
  | [] => id
  | e :: es => fun h => Bool.and_eq_true_iff.mpr
    ((Bool.and_eq_true_iff.mp h).imp (nul_mono hr e) (nulAll_mono hr es))
end

/-- one round: the rules whose body is nullable relative to `N` -/
def nullStep (rules : List Rule) (N : List String) : List String :=
  (rules.filter (fun r => r.expr.nul (inList N))).map (·.name)

def nullIter (rules : List Rule) : Nat → List String → List String
  | 0, N => N
  | k + 1, N =>
    let N' := nullStep rules N
    if N'.length = N.length then N else nullIter rules k N'

theorem nullStep_mono (rules : List Rule) {N M : List String} (h : ∀ n, n ∈ N → n ∈ M) :
    (nullStep rules N).Sublist (nullStep rules M) :=
  (filter_sublist_of_imp _ _ rules fun _ _ hr =>
    nul_mono (fun n hn => List.contains_iff_mem.mpr (h n (List.contains_iff_mem.mp hn))) _ hr).map _

theorem nullStep_len (rules : List Rule) (N : List String) : (nullStep rules N).length ≤ rules.length := by
  unfold nullStep; rw [List.length_map]; exact List.length_filter_le _ _

theorem nullIter_closed (rules : List Rule) : ∀ (k : Nat) (N : List String), N.Sublist (nullStep rules N) →
    rules.length + 1 ≤ N.length + k →
    ∀ r ∈ rules, r.expr.nul (inList (nullIter rules k N)) = true → (nullIter rules k N).contains r.name = true := by
  intro k N hsub hk r hr hn
  rw [← iter_fix (fun _ _ h => nullStep_mono rules h) (nullStep_len rules) (iter := nullIter rules) (fun _ _ => rfl) k N hsub hk]
  exact List.contains_iff_mem.mpr (List.mem_map.mpr ⟨r, List.mem_filter.mpr ⟨hr, hn⟩, rfl⟩)

namespace RT

theorem specNull_closed (rules : List Rule) (hT : ∀ r ∈ rules, r.expr.noTR = true) :
    ∀ r ∈ rules, r.expr.nul (inList (Spec.nullRules (lowerG rules))) = true →
      inList (Spec.nullRules (lowerG rules)) r.name = true := by
  intro r hr hn
  refine List.contains_iff_mem.mpr (Mid.nullRules_closed (lowerG rules) { name := r.name, expr := lowerA r.expr }
    (List.mem_map.mpr ⟨r, hr, rfl⟩) ?_)
  exact (lower_spec _ r.expr (hT r hr)).1.trans hn

/-- **A grammar that the independent specification of C07 finds free of left recursion satisfies the hypothesis of the
    termination theorem** (plain configuration, distinct rule names, well-shaped bodies). -/
theorem spec_acyclic_wfg (E : Env) (hp : Plain E) (hnd : (E.rules.map (·.name)).Nodup)
    (hshape : ∀ r ∈ E.rules, r.expr.wfs (inList (Spec.nullRules (lowerG E.rules))) = true)
    (hspec : Spec.leftRec (lowerG E.rules) = false) :
    ∃ rank, WFG E (inList (Spec.nullRules (lowerG E.rules))) rank := by
  have hT : ∀ r ∈ E.rules, r.expr.noTR = true := fun r hr => noTR_of_wfs _ _ (hshape r hr)
  have hndL : ((lowerG E.rules).map (·.name)).Nodup := by rw [lowerG, List.map_map]; exact hnd
  refine ⟨fun n => if (lowerG E.rules).any (·.name = n) then (reachFrom (Spec.specGraph (lowerG E.rules)) n).length + 1 else 0,
    hp, forall_findRule (specNull_closed E.rules hT), forall_findRule hshape, forall_findRule fun r hr m hm => ?_⟩
  have hrL : ({ name := r.name, expr := lowerA r.expr } : ARule) ∈ lowerG E.rules := List.mem_map.mpr ⟨r, hr, rfl⟩
  have hdefn : (lowerG E.rules).any (·.name = r.name) = true := List.any_eq_true.mpr ⟨_, hrL, decide_eq_true rfl⟩
  simp only [hdefn, if_true]
  by_cases hdefm : (lowerG E.rules).any (·.name = m) = true
  · simp only [hdefm, if_true]
    exact Nat.succ_lt_succ (Mid.specGraph_rank hndL hspec hrL (((lower_spec _ r.expr (hT r hr)).2 m).mpr hm) hdefm)
  · simp only [hdefm, Bool.false_eq_true, if_false]
    exact Nat.succ_pos _
end RT

end PV
