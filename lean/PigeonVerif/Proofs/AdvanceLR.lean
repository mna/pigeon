/-
  Progress and nullability WITH left-recursion support (`-support-left-recursion`, Memoize off, no budget).

  The memo table now holds the seeds and results of the leader rules. Invariant `MA`: every rule entry respects progress
  (a successful entry ends at or after its offset, and where it started only if the rule is nullable). It is the
  invariant with which `adv_gen` of `Advance.lean` is taken; what is particular here is the rule dispatcher
  (`ruleWrap_adv`), whose seed-growing loop preserves it.
-/
import PigeonVerif.Proofs.Advance

namespace PV
namespace RT

/-- left-recursion template, Memoize off, no budget -/
structure LRCfg (E : Env) : Prop where
  lr : E.flags.leftRec = true
  nomemo : E.opts.memoize = false
  nobudget : E.opts.maxExpr = none

/-- the rules that run the seed-growing loop -/
def isLd (r : Rule) : Bool := r.leftRecursive && r.leader

/-- with `-support-left-recursion` and Memoize off, the leaders run the seed-growing loop and every other rule `parseRule` -/
theorem ruleMode_lr {E : Env} (hc : LRCfg E) (r : Rule) : ruleMode E r = if isLd r then .leader else .plain := by
  unfold ruleMode isLd
  rw [hc.lr, memoize_off hc.nomemo]
  cases r.leftRecursive <;> cases r.leader <;> rfl

theorem ruleWrap_lr {E : Env} (hc : LRCfg E) (rec : Expr → PState → Outcome) (k : Nat) (r : Rule) (s : PState) :
    parseRuleWrap E rec k r s = if isLd r = true then parseRuleLeader E rec k r s else parseRule E rec r s := by
  rw [parseRuleWrap_eq, ruleMode_lr hc]
  cases isLd r <;> rfl

/-- every rule entry of the memo table respects progress -/
def MA (rn : String → Bool) (s : PState) : Prop :=
  ∀ ent ∈ s.memo, ∀ name, ent.1.2 = .rule name → ent.2.b = true →
    ent.1.1 ≤ ent.2.end.pos.off ∧ (ent.2.end.pos.off = ent.1.1 → rn name = true)

/-- the invariant threaded through the run: seeds respect progress, and the memo table only grows (it extends `m0`) -/
def LJ (rn : String → Bool) (m0 : List ((Nat × MemoKey) × MemoVal)) (s : PState) : Prop :=
  MA rn s ∧ ∃ new, s.memo = new ++ m0

theorem LJ.inv (rn : String → Bool) (m0 : List ((Nat × MemoKey) × MemoVal)) : MemoInv (LJ rn m0) :=
  ⟨fun _ _ h hj => by unfold LJ MA at *; rw [h]; exact hj⟩

theorem LJ.set {rn : String → Bool} {m0 : List ((Nat × MemoKey) × MemoVal)} {s : PState} (h : LJ rn m0 s) (pt : Savepoint)
    (name : String) (t : MemoVal)
    (ht : t.b = true → pt.pos.off ≤ t.end.pos.off ∧ (t.end.pos.off = pt.pos.off → rn name = true)) :
    LJ rn m0 (setMemoized s pt (.rule name) t) := by
  refine ⟨?_, ?_⟩
  · intro ent hent nm hk hb
    simp only [setMemoized, List.mem_cons] at hent
    rcases hent with rfl | hent
    · simp only [MemoKey.rule.injEq] at hk
      rw [← hk]; exact ht hb
    · exact h.1 ent hent nm hk hb
  · obtain ⟨new, hn⟩ := h.2
    exact ⟨((pt.pos.off, MemoKey.rule name), t) :: new, by simp [setMemoized, hn]⟩

section
variable {E : Env} {rec : Expr → PState → Outcome} {rn : String → Bool} {m0 : List ((Nat × MemoKey) × MemoVal)}
variable (hc : LRCfg E) (hfr : ∀ e s, FrameInv E s (rec e s))
  (hrn : ∀ n r, E.findRule n = some r → r.expr.nul rn = true → rn n = true)
  (hrec : ∀ e s, FInv E s → LJ rn m0 s → (rec e s).Sat (fun _ ok s' => LJ rn m0 s' ∧ Adv rn e s ok s') (fun _ => True))
include hc hfr hrn hrec

/-- one growth attempt: the rule body run at `startMark` with the seed `last` in the table. A seed that respects progress
    keeps the invariants, so the attempt, where it succeeds, ends at or after `startMark`, and there only if the rule is
    nullable: what it returns may be the next seed. -/
theorem attempt_adv {name : String} {r : Rule} (hf : E.findRule name = some r) {startMark : Savepoint} {last : MemoVal}
    {s : PState} (hi : FInv E s) (hj : LJ rn m0 s) (hoff : s.pt.pos.off = startMark.pos.off)
    (hlast : AdvTo (rn name) startMark.pos.off last.b last.end.pos.off)
    (hlf : last.b = false → last.end.pos.off = startMark.pos.off) (hlr : Reach E.input last.end) :
    (parseRule E rec r (setMemoized s startMark (.rule r.name) last)).Sat
      (fun _ ok s2 => FInv E s2 ∧ LJ rn m0 s2 ∧ AdvTo (rn name) startMark.pos.off ok s2.pt.pos.off) (fun _ => True) :=
  have hi1 := hi.setMemo startMark (.rule r.name) hlf hlr
  ((rule_adv_named (LJ.inv rn m0) hc.nomemo hfr hrec hrn hf _ hi1
      (hj.set startMark r.name last (findRule_name hf ▸ hlast))).and (rule_frame hfr r _ hi1.1)).imp
    fun _ _ _ ⟨⟨hj2, ha⟩, hf2⟩ => ⟨hi1.of_framed hf2, hj2, hoff ▸ ha⟩

/-- the seed-growing loop: the seed always respects progress, and so does what the loop returns -/
theorem leaderLoop_adv {name : String} {r : Rule} (hf : E.findRule name = some r) (startMark : Savepoint)
    (hsm : Reach E.input startMark) :
    ∀ (k depth : Nat) (last : MemoVal) (lastErrs : List String) (s : PState), FInv E s → LJ rn m0 s →
      s.pt.pos.off = startMark.pos.off → AdvTo (rn name) startMark.pos.off last.b last.end.pos.off →
      (last.b = false → last.end.pos.off = startMark.pos.off) → Reach E.input last.end →
      (leaderLoop E rec r startMark k depth last lastErrs s).Sat
        (fun _ ok s' => LJ rn m0 s' ∧ AdvTo (rn name) startMark.pos.off ok s'.pt.pos.off) (fun _ => True) := by
  intro k
  induction k with
  | zero => intros; trivial
  | succ k ih =>
    intro depth last lastErrs s hi hj hoff hlast hlf hlr
    rw [leaderLoop_succ]
    refine Outcome.Sat.bind (attempt_adv hc hfr hrn hrec hf hi hj hoff hlast hlf hlr)
      (fun v ok s2 ⟨hi2, hj2, ha⟩ => iteInduction (motive := (Outcome.Sat · _ _)) (fun _ => ?_) fun hgo => ?_) (fun _ _ => trivial)
    · -- stop: the seed is the result
      exact ⟨LJ.set ((LJ.inv rn m0).congr _ _ (by simp) hj2) startMark r.name last (findRule_name hf ▸ hlast),
        by rw [setMemoized.pt, restore_off]; exact hlast⟩
    · obtain ⟨rfl, _⟩ := growGo hgo
      exact ih (depth + 1) _ _ (restore s2 startMark)
        (hi2.congr' (restore_pt_reach _ _ hi2.2.1 hsm) restore.memo) ((LJ.inv rn m0).congr _ _ restore.memo hj2)
        (restore_off _ _) ha nofun hi2.2.1

/-- a leader rule: answered from the table, or grown -/
theorem leader_adv {name : String} {r : Rule} (hf : E.findRule name = some r) (k : Nat) (s : PState) (hi : FInv E s)
    (hj : LJ rn m0 s) :
    (parseRuleLeader E rec k r s).Sat (fun _ ok s' => LJ rn m0 s' ∧ AdvTo (rn name) s.pt.pos.off ok s'.pt.pos.off)
      (fun _ => True) := by
  cases hg : getMemoized s (.rule r.name) with
  | some res =>
    rw [parseRuleLeader_hit hg]
    refine ⟨(LJ.inv rn m0).congr _ _ restore.memo hj, fun hb => ?_⟩
    rw [restore_off, ← findRule_name hf]
    exact hj.1 _ (getMemoized_mem hg) r.name rfl hb
  | none =>
    rw [parseRuleLeader_miss hg]
    exact leaderLoop_adv hc hfr hrn hrec hf s.pt hi.2.1 k 0 _ s.errs s hi hj rfl nofun (fun _ => rfl) hi.2.1

/-- the rule dispatcher -/
theorem ruleWrap_adv (k : Nat) (name : String) (r : Rule) (s : PState) (hf : E.findRule name = some r) (hi : FInv E s)
    (hj : LJ rn m0 s) :
    (parseRuleWrap E rec k r s).Sat (fun _ ok s' => LJ rn m0 s' ∧ AdvTo (rn name) s.pt.pos.off ok s'.pt.pos.off)
      (fun _ => True) := by
  rw [ruleWrap_lr hc]
  split
  · exact leader_adv hc hfr hrn hrec hf k s hi hj
  · exact rule_adv_named (LJ.inv rn m0) hc.nomemo hfr hrec hrn hf s hi hj

end

/-- **Progress with left recursion.** For every grammar, code environment, input and depth, in the left-recursion template
    without Memoize and budget: a successful evaluation never moves backwards, an expression that succeeds without
    consuming is nullable, and every seed / result in the memo table respects the same. -/
theorem advLR {E : Env} (hc : LRCfg E) {rn : String → Bool}
    (hrn : ∀ n r, E.findRule n = some r → r.expr.nul rn = true → rn n = true) :
    ∀ (m0 : List ((Nat × MemoKey) × MemoVal)) (f : Nat) (e : Expr) (s : PState), FInv E s → LJ rn m0 s →
      (parseExpr E f e s).Sat (fun _ ok s' => LJ rn m0 s' ∧ Adv rn e s ok s') (fun _ => True) := fun m0 =>
  adv_gen (LJ.inv rn m0) hc.nomemo fun f ih => ruleWrap_adv hc (parseExpr_frame E f) hrn ih

end RT
end PV
