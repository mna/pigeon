/-
  The world of a result against the world the evaluation started in, in the PEG specification.

  Recorded errors are never taken back: whatever an expression evaluates to - a match, a failure, a panic - the error list
  of the resulting world EXTENDS the list it was started with (`w.errs <+: w'.errs`). Backtracking restores the position (an
  argument) and the state store (`rollback`), never the errors. And `rollback` stands in the right places: whatever happened
  inside - state-change blocks, nested backtracking, recovered throws - the world a FAILURE carries has the store of the
  world the evaluation started with (`C05_spec_failure_keeps_store` states that part on its own). One walk through `evalStep`
  (`Since`) gives both.

  With the whole-parse contract (`C11_parse_contract`) the first is the whole-run form of "every error returned by a code
  block is recorded … and parsing continues": an error recorded at any point of the run is in the list `Parse` returns
  (`C11_final_errors_are_returned`), and by C17 so is every `invalid encoding` error of a byte the reader advanced onto.
  (The plain configuration only: the seed-growing loop of a left-recursive rule DOES drop the errors of its discarded last
  attempt, as C08 demands.)
-/
import PigeonVerif.Proofs.SpecMono

namespace PV
namespace Spec

def Res.world? : Res → Option World
  | .oof => none
  | .panic _ w => some w
  | .fail _ w => some w
  | .ok _ _ _ w => some w

def Grows (w : World) (r : Res) : Prop := ∀ w', r.world? = some w' → w.errs <+: w'.errs

/-- the result keeps what `w` had recorded, and if it is a failure its store is `st` (where there is a store) -/
abbrev Since (E : Env) (w : World) (st : Store) : Res → Prop :=
  Res.Sat (fun _ _ _ w' => w.errs <+: w'.errs) (fun _ w' => w.errs <+: w'.errs ∧ (E.useState = true → w'.state = st))
    (fun w' => w.errs <+: w'.errs)

theorem Since.grows {E : Env} {w : World} {st : Store} {r : Res} (h : Since E w st r) : Grows w r := by
  cases r <;> intro w' hw <;> cases hw
  · exact h
  · exact h.1
  · exact h

theorem Since.mono {E : Env} {w w0 : World} {st st0 : Store} {r : Res} (h0 : w.errs <+: w0.errs)
    (hs : E.useState = true → st0 = st) (h : Since E w0 st0 r) : Since E w st r :=
  h.imp (fun _ _ _ _ h => h0.trans h) (fun _ _ h => ⟨h0.trans h.1, fun hu => (h.2 hu).trans (hs hu)⟩) (fun _ h => h0.trans h)

@[simp] theorem rollback_errs (E : Env) (w : World) (st : Store) : (rollback E w st).errs = w.errs := by
  unfold rollback; split <;> rfl
theorem rollback_prefix {E : Env} {w w1 : World} {st : Store} (h : w.errs <+: w1.errs) : w.errs <+: (rollback E w1 st).errs := by
  rw [rollback_errs]; exact h
theorem note_prefix {c : Ctx} {p : Pos} {s : String} {b : Bool} {w w1 : World} (h : w.errs <+: w1.errs) :
    w.errs <+: (note c p s b w1).errs := h
@[simp] theorem note_errs (c : Ctx) (p : Pos) (s : String) (b : Bool) (w : World) : (note c p s b w).errs = w.errs := rfl
@[simp] theorem panicAt_errs (c : Ctx) (pt : Savepoint) (w : World) : (panicAt c pt w).errs = w.errs := rfl

theorem addErrAt_prefix (E : Env) (c : Ctx) (w : World) (m : Option String) (pos : Pos) :
    w.errs <+: (addErrAt E c w m pos).errs := by
  unfold addErrAt; cases m with
  | none => exact List.prefix_refl _
  | some m => exact List.prefix_append _ _

theorem advance_prefix (E : Env) (c : Ctx) (pt : Savepoint) (w : World) : w.errs <+: (advance E c pt w).2.errs := by
  unfold advance; simp only []; split
  · exact addErrAt_prefix E c w _ _
  · exact List.prefix_refl _

@[simp] theorem call_errs (E : Env) (blk : Nat) (env : List (String × Val)) (pt : Savepoint) (w : World) :
    (call E blk env pt w).2.errs = w.errs := rfl

theorem call_addErrAt_prefix (E : Env) (c : Ctx) (blk : Nat) (env : List (String × Val)) (pt : Savepoint) (w : World) (pos : Pos) :
    w.errs <+: (addErrAt E c (call E blk env pt w).2 (call E blk env pt w).1.err pos).errs := by
  have := addErrAt_prefix E c (call E blk env pt w).2 (call E blk env pt w).1.err pos
  rwa [call_errs] at this

@[simp] theorem note_state (c : Ctx) (p : Pos) (s : String) (b : Bool) (w : World) : (note c p s b w).state = w.state := rfl

theorem addErrAt_state (E : Env) (c : Ctx) (w : World) (m : Option String) (pos : Pos) : (addErrAt E c w m pos).state = w.state := by
  unfold addErrAt; cases m <;> rfl

theorem advance_state (E : Env) (c : Ctx) (pt : Savepoint) (w : World) : (advance E c pt w).2.state = w.state := by
  unfold advance; simp only []; split
  · exact addErrAt_state E c w _ _
  · rfl

theorem rollback_state (E : Env) (hu : E.useState = true) (w : World) (st : Store) : (rollback E w st).state = st := by
  unfold rollback; simp [hu]

theorem rollback_since {E : Env} {w w1 : World} {st : Store} (h : w.errs <+: w1.errs) :
    w.errs <+: (rollback E w1 st).errs ∧ (E.useState = true → (rollback E w1 st).state = st) :=
  ⟨rollback_prefix h, fun hu => rollback_state E hu w1 st⟩

def RecSince (E : Env) (rec : Rec) : Prop := ∀ c e env pt w, Since E w w.state (rec c e env pt w)

section
variable {E : Env} {rec : Rec}

theorem evalLit_prefix (c : Ctx) (ic : Bool) (rs : List Rune) (pt : Savepoint) (w : World) :
    w.errs <+: (evalLit E c ic rs pt w).2.errs :=
  evalLit_rel (R := fun w w' => w.errs <+: w'.errs) (fun _ => List.prefix_refl _) List.IsPrefix.trans c (advance_prefix E c) ic rs pt w

theorem evalLit_state (c : Ctx) (ic : Bool) (rs : List Rune) (pt : Savepoint) (w : World) :
    (evalLit E c ic rs pt w).2.state = w.state :=
  evalLit_rel (R := fun w w' => w'.state = w.state) (fun _ => rfl) (fun h1 h2 => h2.trans h1) c (advance_state E c) ic rs pt w

theorem evalSeq_since (h : RecSince E rec) (c : Ctx) (st0 : Store) (es : List Expr) :
    ∀ env pt w acc, Since E w st0 (evalSeq E rec c st0 es env pt w acc) := by
  induction es with
  | nil => exact fun _ _ _ _ => List.prefix_refl _
  | cons e es ih =>
    exact fun env pt w acc => (h c e env pt w).on (fun _ pt1 env1 w1 hp => (ih env1 pt1 w1 _).mono hp (fun _ => rfl))
      (fun _ _ hp => rollback_since hp.1)

theorem evalChoice_since (h : RecSince E rec) (c : Ctx) (es : List Expr) (env : List (String × Val)) (pt : Savepoint) :
    ∀ w, Since E w w.state (evalChoice E rec c es env pt w) := by
  induction es with
  | nil => exact fun _ => ⟨List.prefix_refl _, fun _ => rfl⟩
  | cons e es ih =>
    exact fun w => (h c e [] pt w).on (fun _ _ _ _ hp => hp)
      (fun _ w1 hp => (ih _).mono (rollback_prefix hp.1) (fun hu => rollback_state E hu w1 w.state))

/-- the loop can fail only while `acc = []` (in its first iteration): only then is `st` tied to the store of `w` -/
theorem evalLoop_since (h : RecSince E rec) (c : Ctx) (e : Expr) (env : List (String × Val)) (k : Nat) :
    ∀ pt w acc st, (acc = [] → w.state = st) → Since E w st (evalLoop rec c e k env pt w acc) := by
  induction k with
  | zero => exact fun _ _ _ _ _ => trivial
  | succ k ih =>
    exact fun pt w acc st hst => (h c e [] pt w).on
      (fun v pt1 _ w1 hp => (ih pt1 w1 (v :: acc) st nofun).mono hp (fun _ => rfl))
      (fun _ _ hp => iteInduction (fun he => ⟨hp.1, fun hu => (hp.2 hu).trans (hst (List.isEmpty_iff.mp he))⟩) (fun _ => hp.1))

theorem evalThrow_since (h : RecSince E rec) (c : Ctx) (label : String) (hs : List (List (String × Expr))) (pt : Savepoint) :
    ∀ env w, Since E w w.state (evalThrow rec c label hs env pt w) := by
  induction hs with
  | nil => exact fun _ _ => ⟨List.prefix_refl _, fun _ => rfl⟩
  | cons hd hs ih =>
    intro env w
    rw [evalThrow_cons]
    cases lookup label hd with
    | none => exact ih env w
    | some r0 => exact (h c r0 env pt w).on (fun _ _ _ _ hp => hp) (fun env1 w1 hp => (ih env1 w1).mono hp.1 hp.2)

theorem grows_of_call {w : World} {r : Res} (h1 : Grows w r) (k : Res → Res)
    (hk : ∀ w', (k r).world? = some w' → ∃ w1, r.world? = some w1 ∧ w1.errs <+: w'.errs) : Grows w (k r) := by
  intro w' hw
  obtain ⟨w1, hr, hp⟩ := hk w' hw
  exact List.IsPrefix.trans (h1 w1 hr) hp

theorem evalStep_since (h : RecSince E rec) (lf : Nat) : RecSince E (evalStep E rec lf) := by
  intro c e env pt w
  have here : w.errs <+: w.errs ∧ (E.useState = true → w.state = w.state) := ⟨List.prefix_refl _, fun _ => rfl⟩
  cases e
  case lit id val ic want =>
    dsimp only [evalStep]
    have hp := evalLit_prefix (E := E) c ic val pt w
    have hs := evalLit_state (E := E) c ic val pt w
    generalize evalLit E c ic val pt w = p at hp hs ⊢
    obtain ⟨_ | _, _⟩ := p
    · exact ⟨note_prefix hp, fun _ => hs⟩
    · exact note_prefix hp
  case any id => dsimp only [evalStep]; exact iteInduction (fun _ => here) (fun _ => note_prefix (advance_prefix E c pt w))
  case cls id cd => dsimp only [evalStep]; exact iteInduction (fun _ => note_prefix (advance_prefix E c pt w)) (fun _ => here)
  case seq id es => exact evalSeq_since h c _ es env pt w []
  case choice id l cl es => exact evalChoice_since h c es env pt w
  case oneOrMore id e1 => exact evalLoop_since h c e1 env lf pt w [] _ (fun _ => rfl)
  case zeroOrMore id e1 =>
    dsimp only [evalStep]
    have h1 := evalLoop_since h c e1 env lf pt w [] _ (fun _ => rfl)
    generalize evalLoop rec c e1 lf env pt w [] = r at h1 ⊢
    cases r with
    | fail _ _ => exact h1.1
    | _ => exact h1
  case throw id label => exact evalThrow_since h c label _ pt env w
  case zeroOrOne id e1 => exact (h c e1 [] pt w).on (fun _ _ _ _ hp => hp) (fun _ _ hp => hp.1)
  case labeled id l e1 => exact (h c e1 [] pt w).on (fun _ _ _ _ hp => hp) (fun _ _ hp => hp)
  case and id e1 => exact (h c e1 [] pt w).on (fun _ _ _ _ => rollback_prefix) (fun _ _ hp => rollback_since hp.1)
  case not id e1 => exact (h _ e1 [] pt w).on (fun _ _ _ _ => rollback_since) (fun _ _ hp => rollback_prefix hp.1)
  case action id blk e1 =>
    dsimp only [evalStep]
    have h1 := h c e1 env pt w
    generalize rec c e1 env pt w = r at h1 ⊢
    cases r with
    | ok v pt1 env1 w1 =>
      exact .orPanic h1 (rollback_prefix (List.IsPrefix.trans h1
        (call_addErrAt_prefix E c blk env1 pt1 { w1 with curPos := pt.pos, curText := slice E pt pt1 } pt.pos)))
    | _ => exact h1
  case andCode id blk | notCode id blk =>
    dsimp only [evalStep]
    have hx := rollback_since (E := E) (st := w.state) (call_addErrAt_prefix E c blk env pt w pt.pos)
    exact .orPanic (List.prefix_refl _) (iteInduction (fun _ => hx.1) (fun _ => hx))
  case stateCode id blk =>
    dsimp only [evalStep]
    exact iteInduction (fun _ => List.prefix_refl _)
      (fun _ => .orPanic (List.prefix_refl _) (call_addErrAt_prefix E c blk env pt w pt.pos))
  case ruleRef id name =>
    dsimp only [evalStep]
    refine iteInduction (fun _ => List.prefix_refl _) (fun _ => ?_)
    generalize E.findRule name = o
    cases o with
    | none => exact ⟨addErrAt_prefix E c w _ _, fun _ => addErrAt_state E c w _ _⟩
    | some r => exact (h _ r.expr [] pt w).on (fun _ _ _ _ hp => hp) (fun _ _ hp => hp)
  case recovery id e1 r labels => exact h _ e1 env pt w

end

theorem eval_since (E : Env) : ∀ f, RecSince E (eval E f)
  | 0 => fun _ _ _ _ _ => trivial
  | f + 1 => evalStep_since (eval_since E f) f

theorem eval_grows (E : Env) (f : Nat) (c : Ctx) (e : Expr) (env : List (String × Val)) (pt : Savepoint) (w : World) :
    Grows w (eval E f c e env pt w) := (eval_since E f c e env pt w).grows

end Spec
end PV
