/-
  The packrat bound: with Memoize(true), for a grammar without a same-position cycle, with unique node identifiers and
  without throw / recover (`Expr.Ok`), every (expression, offset) pair is evaluated at most once, so
  `ExprCnt ≤ (number of expression nodes) × (input length + 1)`.

  Invariant `MI`: the `.expr` keys of the memo table are pairwise distinct, and every entry respects progress. An
  evaluation adds, besides its own key, only keys of strictly smaller measure `mu` - so its own key is new - and
  increases `exprCnt` by exactly the number of `.expr` keys added.

  The walk through the constructs is the one of `Advance` (`body_prog`), with the invariant `In` ("inside the
  evaluation started in `s0`, of measure `B`") and the call condition `Sub` ("below `B`"); what is particular to the
  count is static (`sub_body`) or sits at the two memo levels, which share `memo_cnt`. `FInv` and "a failure ends where
  it started" come from the frame theorem, which holds of every configuration.
-/
import PigeonVerif.Proofs.Conv
import PigeonVerif.Proofs.MemoSound

namespace PV
namespace RT

abbrev M3 := Nat × Nat × Nat

/-- the order in which evaluations (offset, rank bound, size) nest: a later offset first, then lexicographically. Only
    transitivity and irreflexivity are used, so the offsets need no bound. -/
def Lt3 (a b : M3) : Prop := b.1 < a.1 ∨ (a.1 = b.1 ∧ (a.2.1 < b.2.1 ∨ (a.2.1 = b.2.1 ∧ a.2.2 < b.2.2)))

theorem Lt3.trans {a b c : M3} (h : Lt3 a b) (h' : Lt3 b c) : Lt3 a c := by
  rcases h with h | ⟨e, h⟩ <;> rcases h' with h' | ⟨e', h'⟩
  · exact .inl (Nat.lt_trans h' h)
  · exact .inl (e' ▸ h)
  · exact .inl (e ▸ h')
  · refine .inr ⟨e.trans e', ?_⟩
    rcases h with h | ⟨f, h⟩ <;> rcases h' with h' | ⟨f', h'⟩
    · exact .inl (Nat.lt_trans h h')
    · exact .inl (f' ▸ h)
    · exact .inl (f ▸ h')
    · exact .inr ⟨f.trans f', Nat.lt_trans h h'⟩

theorem Lt3.irrefl (a : M3) : ¬ Lt3 a a := by
  rintro (h | ⟨_, h | ⟨_, h⟩⟩) <;> exact Nat.lt_irrefl _ h

/-- the `.expr` keys of a memo table: (offset, node identifier) -/
def ekeys (m : List ((Nat × MemoKey) × MemoVal)) : List (Nat × Nat) :=
  m.filterMap (fun ent => match ent.1.2 with | .expr id => some (ent.1.1, id) | .rule _ => none)

theorem ekeys_append (a b : List ((Nat × MemoKey) × MemoVal)) : ekeys (a ++ b) = ekeys a ++ ekeys b :=
  List.filterMap_append

theorem mem_ekeys {m : List ((Nat × MemoKey) × MemoVal)} {off id : Nat} (h : (off, id) ∈ ekeys m) :
    ∃ v, ((off, .expr id), v) ∈ m := by
  simp only [ekeys, List.mem_filterMap] at h
  obtain ⟨ent, hm, he⟩ := h
  rcases ent with ⟨⟨o, k⟩, v⟩
  cases k with
  | rule n => simp at he
  | expr i =>
    simp at he
    obtain ⟨rfl, rfl⟩ := he
    exact ⟨v, hm⟩

section
variable (E : Env) (own : Nat → Option String) (node : Nat → Option Expr) (rn : String → Bool) (rank : String → Nat)

/-- the measure of evaluating `e` at offset `off` -/
def mu (e : Expr) (off : Nat) : M3 := (off, bigK rank (e.first rn), e.size)

/-- the measure of a memo key -/
def muKey (k : Nat × Nat) : M3 :=
  match node k.2 with
  | some e => mu rn rank e k.1
  | none => (0, 0, 0)

/-- a memo entry respects progress -/
def EntOK (ent : (Nat × MemoKey) × MemoVal) : Prop :=
  match ent.1.2 with
  | .expr id => ent.2.b = true → ent.1.1 ≤ ent.2.end.pos.off ∧
      (ent.2.end.pos.off = ent.1.1 → ∀ e, node id = some e → e.nul rn = true)
  | .rule name => ent.2.b = true → ent.1.1 ≤ ent.2.end.pos.off ∧ (ent.2.end.pos.off = ent.1.1 → rn name = true)

/-- the invariant of the memoized run -/
structure MI (s : PState) : Prop where
  frame : FInv (setMemo E true) s
  ents : ∀ ent ∈ s.memo, EntOK node rn ent
  nodup : (ekeys s.memo).Nodup
  bounded : ∀ k ∈ ekeys s.memo, k.1 ≤ E.input.length ∧ (node k.2).isSome = true

/-- the `.expr` keys that the memo table gained satisfy `P`, and `exprCnt` grew by `extra` plus their number -/
def Grow (extra : Nat) (s s' : PState) (P : Nat × Nat → Prop) : Prop :=
  s'.exprCnt + (ekeys s.memo).length = s.exprCnt + extra + (ekeys s'.memo).length ∧
    ∀ k ∈ ekeys s'.memo, k ∈ ekeys s.memo ∨ P k

/-- hypotheses of the bound -/
structure CountHyp : Prop where
  cfg : MemoCfg E
  ok : ∀ n r, E.findRule n = some r → r.expr.Ok own node (fun _ => true) n
  closed : ∀ n r, E.findRule n = some r → r.expr.nul rn = true → rn n = true
  ranked : ∀ n r, E.findRule n = some r → ∀ m ∈ r.expr.first rn, rank m < rank n

end

section
variable {E : Env} {own : Nat → Option String} {node : Nat → Option Expr} {rn : String → Bool} {rank : String → Nat}

/-- an entry under the key of `e` is the progress fact of `e`; one under a rule's key is that of the rule by `Iff.rfl` -/
theorem EntOK.expr_iff {e : Expr} (hnode : node e.id = some e) (off : Nat) (res : MemoVal) :
    EntOK node rn ((off, .expr e.id), res) ↔ AdvTo (e.nul rn) off res.b res.end.pos.off :=
  ⟨fun h hb => ⟨(h hb).1, fun heq => (h hb).2 heq e hnode⟩,
    fun h hb => ⟨(h hb).1, fun heq e' he' => Option.some.inj (hnode.symm.trans he') ▸ (h hb).2 heq⟩⟩

theorem Grow.of_eq {s s' : PState} {P : Nat × Nat → Prop} (h1 : s'.memo = s.memo) (h2 : s'.exprCnt = s.exprCnt) :
    Grow 0 s s' P := ⟨by rw [h1, h2]; rfl, fun _ hk => .inl (h1 ▸ hk)⟩

theorem Grow.trans {x y : Nat} {a b c : PState} {P : Nat × Nat → Prop} (h1 : Grow x a b P) (h2 : Grow y b c P) :
    Grow (x + y) a c P :=
  ⟨by have := h1.1; have := h2.1; omega, fun k hk => (h2.2 k hk).elim (h1.2 k) .inr⟩

theorem Grow.congr {x : Nat} {a b b' : PState} {P : Nat × Nat → Prop} (h : Grow x a b P) (h1 : b'.memo = b.memo)
    (h2 : b'.exprCnt = b.exprCnt) : Grow x a b' P := by
  unfold Grow; rw [h1, h2]; exact h

/-- the part of `MI` that only looks at the memo table -/
def MT (E : Env) (node : Nat → Option Expr) (rn : String → Bool) (s : PState) : Prop :=
  (∀ ent ∈ s.memo, EntOK node rn ent) ∧ (ekeys s.memo).Nodup ∧
    ∀ k ∈ ekeys s.memo, k.1 ≤ E.input.length ∧ (node k.2).isSome = true

theorem MI.mt {s : PState} (h : MI E node rn s) : MT E node rn s := ⟨h.ents, h.nodup, h.bounded⟩

theorem MT.congr {s s' : PState} (h : MT E node rn s) (h1 : s'.memo = s.memo) : MT E node rn s' := by
  unfold MT; rw [h1]; exact h

theorem MI.congr {s s' : PState} (h : MI E node rn s) (h1 : s'.memo = s.memo) (h2 : Reach E.input s'.pt) : MI E node rn s' :=
  have m := h.mt.congr h1
  ⟨h.frame.congr' h2 h1, m.1, m.2.1, m.2.2⟩

theorem MI.reach {s : PState} (h : MI E node rn s) : Reach E.input s.pt := h.frame.2.1

theorem MI.off_le {s : PState} (h : MI E node rn s) : s.pt.pos.off ≤ E.input.length := by
  have := h.reach.le; omega

theorem child_lt {e' P : Expr} {off' off0 : Nat} (h0 : off0 ≤ off')
    (hsame : off' = off0 → bigK rank (e'.first rn) < bigK rank (P.first rn) ∨
      (bigK rank (e'.first rn) ≤ bigK rank (P.first rn) ∧ e'.size < P.size)) :
    Lt3 (mu rn rank e' off') (mu rn rank P off0) := by
  rcases Nat.eq_or_lt_of_le h0 with rfl | h
  · refine .inr ⟨rfl, ?_⟩
    rcases hsame rfl with h | ⟨h1, h2⟩
    · exact .inl h
    · rcases Nat.eq_or_lt_of_le h1 with e | h
      · exact .inr ⟨e, h2⟩
      · exact .inl h
  · exact .inl h

end

section core
variable {E : Env} {own : Nat → Option String} {node : Nat → Option Expr} {rn : String → Bool} {rank : String → Nat}

/-- what is assumed of the recursive calls -/
def RecC (E : Env) (own : Nat → Option String) (node : Nat → Option Expr) (rn : String → Bool) (rank : String → Nat)
    (rec : Expr → PState → Outcome) : Prop :=
  ∀ e s rnm, MI E node rn s → e.Ok own node (fun _ => true) rnm →
    (rec e s).Sat (fun _ ok s' => (MT E node rn s' ∧
      Grow 1 s s' (fun k => Lt3 (muKey node rn rank k) (mu rn rank e s.pt.pos.off))) ∧ Adv rn e s ok s') (fun _ => True)

/-- what a new entry adds to the `.expr` keys -/
def ekey (off : Nat) : MemoKey → List (Nat × Nat)
  | .expr id => [(off, id)]
  | .rule _ => []

theorem ekeys_cons (off : Nat) (k : MemoKey) (v : MemoVal) (m : List ((Nat × MemoKey) × MemoVal)) :
    ekeys (((off, k), v) :: m) = ekey off k ++ ekeys m := by
  cases k <;> rfl

-- One memo level: look `key` up; on a miss compute (`o`), then record. `o` counts one evaluation of its own for
-- an `.expr` key, and adds keys with `P`, among which its own is not. `A` is what an entry under `key` says of
-- the success flag and the end offset.
theorem memo_cnt {key : MemoKey} {s sh : PState} {o : Outcome} {P Q : Nat × Nat → Prop} {A : Bool → Nat → Prop}
    (hmt : MT E node rn s) (hm : sh.memo = s.memo) (hc : sh.exprCnt = s.exprCnt)
    (hA : ∀ res : MemoVal, EntOK node rn ((s.pt.pos.off, key), res) ↔ A res.b res.end.pos.off)
    (ho : o.Sat (fun _ ok s1 => (MT E node rn s1 ∧ Grow (ekey s.pt.pos.off key).length s s1 P) ∧ A ok s1.pt.pos.off)
      (fun _ => True))
    (hkey : ∀ k ∈ ekey s.pt.pos.off key, (k.1 ≤ E.input.length ∧ (node k.2).isSome = true) ∧ ¬ P k ∧ Q k)
    (hPQ : ∀ k, P k → Q k) :
    (memoLevel key s sh o).Sat (fun _ ok s' => (MT E node rn s' ∧ Grow 0 s s' Q) ∧ A ok s'.pt.pos.off) (fun _ => True) := by
  unfold memoLevel
  cases hg : getMemoized s key with
  | some res =>
    have hmem : (restore sh res.end).memo = s.memo := restore.memo.trans hm
    exact ⟨⟨hmt.congr hmem, Grow.of_eq hmem (restore.exprCnt.trans hc)⟩,
      by rw [restore_off]; exact (hA res).mp (hmt.1 _ (getMemoized_mem hg))⟩
  | none =>
    refine ho.bind fun v ok s1 ⟨⟨mt1, hcc, hp⟩, hent⟩ => ?_
    have hks : ekeys (setMemoized s1 s.pt key ⟨v, ok, s1.pt⟩).memo = ekey s.pt.pos.off key ++ ekeys s1.memo := ekeys_cons ..
    simp only [Outcome.Sat, MT, Grow, hks, List.length_append]
    -- the own key is neither in the table before (a miss) nor among the keys added below (`¬ P`)
    have hfresh : ∀ k ∈ ekey s.pt.pos.off key, k ∉ ekeys s1.memo := by
      intro k hk hk1
      rcases hp k hk1 with hk1 | hk1
      · cases key with
        | rule n => cases hk
        | expr id =>
          obtain rfl := List.mem_singleton.mp hk
          obtain ⟨v', hv'⟩ := mem_ekeys hk1
          exact getMemoized_none hg v' hv'
      · exact (hkey k hk).2.1 hk1
    refine ⟨⟨⟨List.forall_mem_cons.mpr ⟨(hA _).mpr hent, mt1.1⟩, ?_,
        List.forall_mem_append.mpr ⟨fun k hk => (hkey k hk).1, mt1.2.2⟩⟩,
      hcc.trans (Nat.add_assoc ..),
      List.forall_mem_append.mpr ⟨fun k hk => .inr (hkey k hk).2.2, fun k hk => (hp k hk).imp_right (hPQ k)⟩⟩, hent⟩
    exact List.nodup_append.mpr ⟨by cases key <;> simp [ekey], mt1.2.1, fun a ha b hb e => hfresh a ha (e ▸ hb)⟩

/-- within the evaluation started in `s0`, whose measure is `B`: the keys added so far are below `B` and counted -/
def In (E : Env) (node : Nat → Option Expr) (rn : String → Bool) (rank : String → Nat) (B : M3) (s0 s : PState) : Prop :=
  MT E node rn s ∧ Grow 0 s0 s (fun k => Lt3 (muKey node rn rank k) B)

theorem In.acct {B : M3} {s0 : PState} : AcctInv (In E node rn rank B s0) :=
  ⟨fun _ _ h1 h2 ⟨m, g⟩ => ⟨m.congr h1, g.congr h1 h2⟩⟩

/-- `e` may be called at `off` inside an evaluation of measure `B` -/
def Sub (own : Nat → Option String) (node : Nat → Option Expr) (rn : String → Bool) (rank : String → Nat)
    (rnm : String) (B : M3) (e : Expr) (off : Nat) : Prop :=
  e.Ok own node (fun _ => true) rnm ∧ Lt3 (mu rn rank e off) B

-- `b`: the items before `es` may all have matched without consuming
theorem sub_seq {rnm : String} (P : Expr) (off0 : Nat) (es : List Expr) : ∀ (b : Bool) (off : Nat),
    OkL own node (fun _ => true) rnm es → AdvTo b off0 true off → (∀ e ∈ es, e.size < P.size) →
    (b = true → bigK rank (firstSeq rn es) ≤ bigK rank (P.first rn)) →
    CSeq (Sub own node rn rank rnm (mu rn rank P off0)) rn es off := by
  induction es with
  | nil => exact fun _ _ _ _ _ _ => trivial
  | cons e es ih =>
    intro b off hes h0 hsz hK
    refine ⟨⟨hes.1, child_lt (h0 rfl).1 fun heq => .inr ⟨Nat.le_trans (bigK_mono fun m hm => List.mem_append_left _ hm)
      (hK ((h0 rfl).2 heq)), hsz e List.mem_cons_self⟩⟩, fun off' h1 h2 => ?_⟩
    refine ih (b && e.nul rn) off' hes.2 (h0.trans fun _ => ⟨h1, h2⟩) (fun e' he' => hsz e' (List.mem_cons_of_mem _ he'))
      fun hb => ?_
    have ⟨hb1, hb2⟩ := Bool.and_eq_true_iff.mp hb
    exact Nat.le_trans (bigK_mono fun m hm => List.mem_append_right _ (by rw [if_pos hb2]; exact hm)) (hK hb1)

-- the sub-expressions an evaluation calls have a smaller measure
theorem sub_body {rnm : String} (P : Expr) (off0 : Nat) (hP : P.Ok own node (fun _ => true) rnm) :
    CBody (Sub own node rn rank rnm (mu rn rank P off0)) rn P off0 := by
  have same : ∀ e1 : Expr, e1.Ok own node (fun _ => true) rnm → bigK rank (e1.first rn) ≤ bigK rank (P.first rn) →
      e1.size < P.size → ∀ off', off0 ≤ off' → Sub own node rn rank rnm (mu rn rank P off0) e1 off' :=
    fun e1 ok a b off' h0 => ⟨ok, child_lt h0 (fun _ => Or.inr ⟨a, b⟩)⟩
  cases P with
  | recovery | throw => exact hP.elim
  | action _ _ e1 | labeled _ _ e1 | and _ e1 | not _ e1 | zeroOrOne _ e1 =>
    exact same e1 hP.2 (Nat.le_refl _) (Nat.lt_succ_self _) _ (Nat.le_refl _)
  | oneOrMore _ e1 | zeroOrMore _ e1 => exact same e1 hP.2 (Nat.le_refl _) (Nat.lt_succ_self _)
  | choice id line col alts =>
    exact fun a ha => same a (hP.2.mem ha) (bigK_mono fun m hm => firstAny_mem ha hm) (size_mem ha) _ (Nat.le_refl _)
  | seq id es => exact sub_seq _ _ es true off0 hP.2 (.stay rfl) (fun _ he' => size_mem he') fun _ => Nat.le_refl _
  | _ => trivial

variable (h : CountHyp E own node rn rank)
include h

section
variable {rec : Expr → PState → Outcome}
  (hF : ∀ e s, FrameInv (setMemo E true) s (rec e s)) (hrec : RecC E own node rn rank rec)
include hF hrec

/-- a sub-call, through the memo level of the expressions; the frame theorem adds `FInv` and where a failure ends -/
theorem In.call {B : M3} {s0 : PState} {rnm : String} (e : Expr) (s : PState) (hi : FInv (setMemo E true) s)
    (hj : In E node rn rank B s0 s) (hc : Sub own node rn rank rnm B e s.pt.pos.off) :
    (parseExprWrap (setMemo E true) rec e s).Sat
      (fun _ ok s' => CallPost (setMemo E true) rn (In E node rn rank B s0) e s ok s') (fun _ => True) := by
  have hmi : MI E node rn s := ⟨hi, hj.1.1, hj.1.2.1, hj.1.2.2⟩
  obtain ⟨_, hnode⟩ := hc.1.keyed
  have hown : muKey node rn rank (s.pt.pos.off, e.id) = mu rn rank e s.pt.pos.off := by simp [muKey, hnode]
  have hf := wrap_frame hF e s hi.1
  rw [wrapM_eq h.cfg] at hf ⊢
  exact ((memo_cnt (key := .expr e.id) (sh := hit s) (Q := fun k => Lt3 (muKey node rn rank k) B) hj.1 rfl rfl
      (EntOK.expr_iff hnode _) (hrec e s rnm hmi hc.1)
      (fun k hk => by
        obtain rfl := List.mem_singleton.mp hk
        exact ⟨⟨hmi.off_le, by simp [hnode]⟩, by rw [hown]; exact Lt3.irrefl _, by rw [hown]; exact hc.2⟩)
      (fun _ hk => hk.trans hc.2)).and hf).imp fun v ok s' ⟨⟨⟨mt, hg⟩, hadv⟩, hf⟩ =>
    ⟨hi.of_framed hf, ⟨mt, hj.2.trans hg⟩, hadv, hf.failOff⟩

/-- a rule, through the memo level of the rules -/
theorem rule_cnt (id : Nat) {name : String} {r : Rule} (hfr : E.findRule name = some r) (s : PState) (hi : MI E node rn s) :
    (parseRuleMemoize (setMemo E true) rec r s).Sat
      (fun _ ok s' => In E node rn rank (mu rn rank (.ruleRef id name) s.pt.pos.off) s s' ∧
        AdvTo (rn name) s.pt.pos.off ok s'.pt.pos.off)
      (fun _ => True) := by
  obtain rfl : r.name = name := findRule_name hfr
  have hlt : Lt3 (mu rn rank r.expr s.pt.pos.off) (mu rn rank (.ruleRef id r.name) s.pt.pos.off) :=
    child_lt (Nat.le_refl _) fun _ => Or.inl
      (Nat.lt_of_le_of_lt (bigK_le_iff.mpr fun m hm' => h.ranked _ r hfr m hm') (lt_bigK List.mem_cons_self))
  exact memo_cnt (key := .rule r.name) (sh := s) hi.mt rfl rfl (fun _ => Iff.rfl)
    ((rule_prog In.acct (fun e' s' => In.call h hF hrec e' s') r s hi.frame ⟨hi.mt, Grow.of_eq rfl rfl⟩
        ⟨h.ok _ r hfr, hlt⟩).imp fun _ _ _ h1 => ⟨h1.1, h1.2.mono (h.closed _ r hfr)⟩)
    (fun _ hk => nomatch hk) (fun _ hk => hk)

theorem body_cnt (k : Nat) (e : Expr) (s : PState) (rnm : String) (hi : MI E node rn s)
    (he : e.Ok own node (fun _ => true) rnm) :
    (parseExprBody (setMemo E true) rec k e s).Sat
      (fun _ ok s' => In E node rn rank (mu rn rank e s.pt.pos.off) s s' ∧ Adv rn e s ok s') (fun _ => True) := by
  refine body_prog In.acct (fun e' s' => In.call h hF hrec e' s') k e s hi.frame ⟨hi.mt, Grow.of_eq rfl rfl⟩
    (sub_body e _ he) ?_
  intro id name r heq hfr
  subst heq
  rw [ruleWrap_memo h.cfg]
  exact rule_cnt h hF hrec id hfr s hi

end

theorem parseExpr_cnt (f : Nat) : RecC E own node rn rank (parseExpr (setMemo E true) f) := by
  induction f with
  | zero => exact fun _ _ _ _ _ => trivial
  | succ f ih =>
    intro e s rnm hi he
    rw [parseExpr_nobudget (E := setMemo E true) h.cfg.nobudget]
    -- the evaluation counted by `bump` is the `1` of `RecC`
    exact body_cnt h (parseExpr_frame (setMemo E true) f) ih f e (bump s) rnm (hi.congr rfl hi.reach) he

end core

/-! ### the bound -/

/-- all pairs (offset ≤ n, identifier in `ids`) -/
def keyUniverse (n : Nat) (ids : List Nat) : List (Nat × Nat) :=
  (List.range (n + 1)).flatMap (fun o => ids.map (fun i => (o, i)))

theorem keyUniverse_length (n : Nat) (ids : List Nat) : (keyUniverse n ids).length = (n + 1) * ids.length := by
  unfold keyUniverse
  induction n with
  | zero => simp
  | succ n ih =>
    rw [List.range_succ, List.flatMap_append, List.length_append, ih]
    simp only [List.flatMap_cons, List.flatMap_nil, List.append_nil, List.length_map]
    rw [Nat.add_mul (n + 1) 1, Nat.one_mul]

theorem mem_keyUniverse {n : Nat} {ids : List Nat} {k : Nat × Nat} (h1 : k.1 ≤ n) (h2 : k.2 ∈ ids) : k ∈ keyUniverse n ids :=
  List.mem_flatMap_of_mem (List.mem_range.mpr (Nat.lt_succ_of_le h1)) (List.mem_map_of_mem (f := fun i => (k.1, i)) h2)

section bound
variable {E : Env} {own : Nat → Option String} {node : Nat → Option Expr} {rn : String → Bool} {rank : String → Nat}

theorem MI.start : MI E node rn (startState (setMemo E true)) := by
  refine ⟨start_inv (setMemo E true), ?_, ?_, ?_⟩ <;> rw [(startState_empty _).1]
  · intro ent hent; cases hent
  · exact List.nodup_nil
  · intro k hk; cases hk

theorem packrat_bound (h : CountHyp E own node rn rank) (ids : List Nat) (hids : ∀ id e, node id = some e → id ∈ ids)
    (f : Nat) {n : String} {r : Rule} (hfr : E.findRule n = some r) (v : Val) (ok : Bool) (s' : PState)
    (hres : parseRuleWrap (setMemo E true) (parseExpr (setMemo E true) f) f r (startState (setMemo E true)) = .done v ok s') :
    s'.exprCnt ≤ ids.length * (E.input.length + 1) := by
  rw [ruleWrap_memo h.cfg] at hres
  -- from an empty table and a zero counter: the counter is the number of keys, and the keys are distinct
  obtain ⟨⟨⟨_, hnd, hbd⟩, hc, _⟩, _⟩ :=
    (rule_cnt h (parseExpr_frame (setMemo E true) f) (parseExpr_cnt h f) 0 hfr _ MI.start).done hres
  rw [(startState_empty _).1, (startState_empty _).2] at hc
  rw [show s'.exprCnt = (ekeys s'.memo).length from hc.trans (Nat.zero_add _), Nat.mul_comm, ← keyUniverse_length]
  refine hnd.length_le_of_subset (fun k hk => ?_)
  obtain ⟨b1, b2⟩ := hbd k hk
  obtain ⟨e, hn⟩ := Option.isSome_iff_exists.mp b2
  exact mem_keyUniverse b1 (hids k.2 e hn)
end bound
end RT
end PV
