/-
  The specification is monotone in its fuel: once `Spec.eval` returns a result other than "out of
  fuel", every larger fuel returns the same result. So "the" result of an expression is well defined
  (`Spec.Evaluates`), and statements quantified over all fuels are statements about that result.

  `Res.on` names the `match` by which the clauses of `evalStep` consume a sub-result (the clauses unfold to it); the
  refinement proof (Proofs/Refine.lean) states its rule for a recursive call against it. Two rules about it carry the
  walks through `evalStep`: `Res.Sat.on` for a condition on the result (`Res.Sat`: the store of a failure and
  the recorded errors in SpecErrs, the scope of a match in Scope) and `Res.on_ext` for two runs, here.
-/
import PigeonVerif.Spec.Peg

namespace PV

namespace Spec

abbrev Rec := Ctx → Expr → List (String × Val) → Savepoint → World → Res

def Res.on (r : Res) (kok : Val → Savepoint → List (String × Val) → World → Res)
    (kfail : List (String × Val) → World → Res) : Res :=
  match r with
  | .ok v pt env w => kok v pt env w
  | .fail env w => kfail env w
  | r => r

theorem Res.on_id (r : Res) : r.on .ok .fail = r := by cases r <;> rfl

section
variable {r r' : Res} {kok kok' : Val → Savepoint → List (String × Val) → World → Res}
  {kfail kfail' : List (String × Val) → World → Res}

theorem Res.on_eq_ok {v : Val} {pt : Savepoint} {env : List (String × Val)} {w : World} (h : r.on kok kfail = .ok v pt env w) :
    (∃ v1 pt1 env1 w1, r = .ok v1 pt1 env1 w1 ∧ kok v1 pt1 env1 w1 = .ok v pt env w) ∨
    (∃ env1 w1, r = .fail env1 w1 ∧ kfail env1 w1 = .ok v pt env w) := by
  cases r with
  | ok v1 pt1 env1 w1 => exact .inl ⟨_, _, _, _, rfl, h⟩
  | fail env1 w1 => exact .inr ⟨_, _, rfl, h⟩
  | oof => cases h
  | panic p w1 => cases h

theorem Res.on_eq_fail {env : List (String × Val)} {w : World} (h : r.on kok kfail = .fail env w) :
    (∃ v1 pt1 env1 w1, r = .ok v1 pt1 env1 w1 ∧ kok v1 pt1 env1 w1 = .fail env w) ∨
    (∃ env1 w1, r = .fail env1 w1 ∧ kfail env1 w1 = .fail env w) := by
  cases r with
  | ok v1 pt1 env1 w1 => exact .inl ⟨_, _, _, _, rfl, h⟩
  | fail env1 w1 => exact .inr ⟨_, _, rfl, h⟩
  | oof => cases h
  | panic p w1 => cases h

/-- a condition on a result: on a match, on a failure, on the world of a panic; none on "out of fuel" -/
def Res.Sat (Pok : Val → Savepoint → List (String × Val) → World → Prop) (Pfail : List (String × Val) → World → Prop)
    (Pp : World → Prop) : Res → Prop
  | .oof => True
  | .panic _ w => Pp w
  | .fail env w => Pfail env w
  | .ok v pt env w => Pok v pt env w

theorem Res.sat_true (r : Res) : r.Sat (fun _ _ _ _ => True) (fun _ _ => True) (fun _ => True) := by cases r <;> trivial

theorem Res.Sat.imp {Pok Qok : Val → Savepoint → List (String × Val) → World → Prop}
    {Pfail Qfail : List (String × Val) → World → Prop} {Pp Qp : World → Prop} {r : Res} (h : r.Sat Pok Pfail Pp)
    (hok : ∀ v pt env w, Pok v pt env w → Qok v pt env w) (hfail : ∀ env w, Pfail env w → Qfail env w)
    (hp : ∀ w, Pp w → Qp w := by exact fun _ h => h) : r.Sat Qok Qfail Qp := by
  cases r with
  | oof => trivial
  | panic _ w => exact hp w h
  | fail env w => exact hfail env w h
  | ok v pt env w => exact hok v pt env w h

theorem Res.Sat.on {Pok Qok : Val → Savepoint → List (String × Val) → World → Prop}
    {Pfail Qfail : List (String × Val) → World → Prop} {Pp : World → Prop} (h : r.Sat Pok Pfail Pp)
    (hok : ∀ v pt env w, Pok v pt env w → (kok v pt env w).Sat Qok Qfail Pp)
    (hfail : ∀ env w, Pfail env w → (kfail env w).Sat Qok Qfail Pp) : (r.on kok kfail).Sat Qok Qfail Pp := by
  cases r with
  | ok v pt env w => exact hok v pt env w h
  | fail env w => exact hfail env w h
  | oof => trivial
  | panic p w => exact h

theorem Res.Sat.orPanic {Pok : Val → Savepoint → List (String × Val) → World → Prop} {Pfail : List (String × Val) → World → Prop}
    {Pp : World → Prop} {o : Option PanicVal} {w : World} {k : Res} (hp : Pp w) (hk : k.Sat Pok Pfail Pp) :
    (match o with
      | some p => Res.panic p w
      | none => k).Sat Pok Pfail Pp := by
  cases o
  · exact hk
  · exact hp

/-- `on` is monotone in the sub-result and in the continuations, for the order in which "out of fuel" is below everything -/
theorem Res.on_ext (hr : r ≠ .oof → r' = r) (hok : ∀ v pt env w, kok v pt env w ≠ .oof → kok' v pt env w = kok v pt env w)
    (hfail : ∀ env w, kfail env w ≠ .oof → kfail' env w = kfail env w)
    (hne : r.on kok kfail ≠ .oof) : r'.on kok' kfail' = r.on kok kfail := by
  cases r with
  | oof => exact absurd rfl hne
  | ok v pt env w => rw [hr nofun]; exact hok v pt env w hne
  | fail env w => rw [hr nofun]; exact hfail env w hne
  | panic p w => rw [hr nofun]; rfl

theorem Res.on_ext_left (hr : r ≠ .oof → r' = r) : r.on kok kfail ≠ .oof → r'.on kok kfail = r.on kok kfail :=
  Res.on_ext hr (fun _ _ _ _ _ => rfl) (fun _ _ _ => rfl)

end

theorem evalThrow_cons (rec : Rec) (c : Ctx) (label : String) (h : List (String × Expr)) (hs : List (List (String × Expr)))
    (env : List (String × Val)) (pt : Savepoint) (w : World) :
    evalThrow rec c label (h :: hs) env pt w =
      match lookup label h with
      | some r => (rec c r env pt w).on .ok (fun env' w' => evalThrow rec c label hs env' pt w')
      | none => evalThrow rec c label hs env pt w := rfl

theorem evalLit_rel {E : Env} {R : World → World → Prop} (refl : ∀ w, R w w) (trans : ∀ {w1 w2 w3}, R w1 w2 → R w2 w3 → R w1 w3)
    (c : Ctx) (adv : ∀ pt w, R w (advance E c pt w).2) (ic : Bool) (rs : List Rune) :
    ∀ (pt : Savepoint) (w : World), R w (evalLit E c ic rs pt w).2 := by
  induction rs with
  | nil => exact fun _ w => refl w
  | cons r rs ih =>
    exact fun pt w => iteInduction (motive := fun x : Option Savepoint × World => R w x.2) (fun _ => refl w)
      (fun _ => trans (adv pt w) (ih (advance E c pt w).1 (advance E c pt w).2))

section
variable {rec : Rec}

theorem evalLoop_nofail (c : Ctx) (e : Expr) (env : List (String × Val)) (k : Nat) : ∀ pt w acc, acc ≠ [] →
    (evalLoop rec c e k env pt w acc).Sat (fun _ _ _ _ => True) (fun _ _ => False) (fun _ => True) := by
  induction k with
  | zero => exact fun _ _ _ _ => trivial
  | succ k ih =>
    exact fun pt w acc hne => (Res.sat_true _).on (fun _ pt1 _ w1 _ => ih pt1 w1 _ (List.cons_ne_nil _ _))
      (fun _ _ _ => iteInduction (fun he => hne (List.isEmpty_iff.mp he)) (fun _ => trivial))

theorem evalLoop_fail_inv (c : Ctx) (e : Expr) (k : Nat) (env : List (String × Val)) (pt : Savepoint) (w : World)
    (env' : List (String × Val)) (w' : World) (h : evalLoop rec c e k env pt w [] = .fail env' w') :
    ∃ env1, rec c e [] pt w = .fail env1 w' := by
  cases k with
  | zero => nomatch h
  | succ k =>
    rcases Res.on_eq_fail (r := rec c e [] pt w) h with ⟨v1, pt1, _, w1, _, h⟩ | ⟨env1, w1, hr, h⟩
    · have := evalLoop_nofail (rec := rec) c e env k pt1 w1 [v1] (List.cons_ne_nil _ _)
      rw [h] at this
      exact this.elim
    · cases h; exact ⟨env1, hr⟩

end

/-- `rec'` extends `rec`: wherever `rec` has an answer, `rec'` has the same one -/
def Ext (rec rec' : Rec) : Prop :=
  ∀ c e env pt w, rec c e env pt w ≠ .oof → rec' c e env pt w = rec c e env pt w

section
variable {E : Env} {rec rec' : Rec}

theorem evalSeq_ext (h : Ext rec rec') (c : Ctx) (st0 : Store) (es : List Expr) :
    ∀ env pt w acc, evalSeq E rec c st0 es env pt w acc ≠ .oof →
      evalSeq E rec' c st0 es env pt w acc = evalSeq E rec c st0 es env pt w acc := by
  induction es with
  | nil => exact fun _ _ _ _ _ => rfl
  | cons e es ih =>
    exact fun env pt w acc => Res.on_ext (h c e env pt w) (fun _ pt1 env1 w1 => ih env1 pt1 w1 _) (fun _ _ _ => rfl)

theorem evalChoice_ext (h : Ext rec rec') (c : Ctx) (es : List Expr) (env : List (String × Val)) (pt : Savepoint) :
    ∀ w, evalChoice E rec c es env pt w ≠ .oof →
      evalChoice E rec' c es env pt w = evalChoice E rec c es env pt w := by
  induction es with
  | nil => exact fun _ _ => rfl
  | cons e es ih => exact fun w => Res.on_ext (h c e [] pt w) (fun _ _ _ _ _ => rfl) (fun _ _ => ih _)

theorem evalLoop_ext (h : Ext rec rec') (c : Ctx) (e : Expr) (env : List (String × Val)) (k : Nat) :
    ∀ k' pt w acc, k ≤ k' → evalLoop rec c e k env pt w acc ≠ .oof →
      evalLoop rec' c e k' env pt w acc = evalLoop rec c e k env pt w acc := by
  induction k with
  | zero => exact fun _ _ _ _ _ hne => absurd rfl hne
  | succ k ih =>
    intro k' pt w acc hk
    cases k' with
    | zero => exact absurd hk (Nat.not_succ_le_zero k)
    | succ k' =>
      exact Res.on_ext (h c e [] pt w) (fun _ pt1 _ w1 => ih k' pt1 w1 _ (Nat.le_of_succ_le_succ hk)) (fun _ _ _ => rfl)

theorem evalThrow_ext (h : Ext rec rec') (c : Ctx) (label : String) (hs : List (List (String × Expr))) (pt : Savepoint) :
    ∀ env w, evalThrow rec c label hs env pt w ≠ .oof →
      evalThrow rec' c label hs env pt w = evalThrow rec c label hs env pt w := by
  induction hs with
  | nil => exact fun _ _ _ => rfl
  | cons hd hs ih =>
    intro env w
    rw [evalThrow_cons, evalThrow_cons]
    cases lookup label hd with
    | none => exact ih env w
    | some r0 => exact Res.on_ext (h c r0 env pt w) (fun _ _ _ _ _ => rfl) (fun env1 w1 => ih env1 w1)

theorem evalStep_ext (h : Ext rec rec') {k k' : Nat} (hk : k ≤ k') : Ext (evalStep E rec k) (evalStep E rec' k') := by
  intro c e env pt w hne
  cases e
  case seq id es => exact evalSeq_ext h c _ es env pt w [] hne
  case choice id l cl es => exact evalChoice_ext h c es env pt w hne
  case oneOrMore id e1 => exact evalLoop_ext h c e1 env k k' pt w [] hk hne
  case zeroOrMore id e1 =>
    dsimp only [evalStep] at hne ⊢
    rw [evalLoop_ext h c e1 env k k' pt w [] hk (fun ho => hne (by rw [ho]))]
  case throw id label => exact evalThrow_ext h c label _ pt env w hne
  case zeroOrOne id e1 | and id e1 | labeled id l e1 => exact Res.on_ext_left (h c e1 [] pt w) hne
  case not id e1 => exact Res.on_ext_left (h _ e1 [] pt w) hne
  case action id blk e1 =>
    dsimp only [evalStep] at hne ⊢
    have hr := h c e1 env pt w
    generalize rec c e1 env pt w = r at hr hne ⊢
    cases r with
    | oof => exact absurd rfl hne
    | _ => rw [hr nofun]
  case recovery id e1 r labels => exact h _ e1 env pt w hne
  case ruleRef id name =>
    dsimp only [evalStep] at hne ⊢
    by_cases hn : name = ""
    · rw [if_pos hn, if_pos hn]
    · rw [if_neg hn] at hne; rw [if_neg hn, if_neg hn]
      generalize E.findRule name = o at hne ⊢
      cases o with
      | none => rfl
      | some r => exact Res.on_ext_left (h _ r.expr [] pt w) hne
  all_goals rfl

end

theorem eval_mono (E : Env) {f f' : Nat} (hf : f ≤ f') : Ext (eval E f) (eval E f') := by
  induction f generalizing f' with
  | zero => exact fun _ _ _ _ _ h => absurd rfl h
  | succ f ih =>
    cases f' with
    | zero => exact absurd hf (Nat.not_succ_le_zero f)
    | succ f' => exact evalStep_ext (ih (Nat.le_of_succ_le_succ hf)) (Nat.le_of_succ_le_succ hf)

/-- the result of an expression: what `eval` returns with enough fuel -/
def Evaluates (E : Env) (c : Ctx) (e : Expr) (env : List (String × Val)) (pt : Savepoint) (w : World) (r : Res) : Prop :=
  r ≠ .oof ∧ ∃ f, eval E f c e env pt w = r

theorem Evaluates.unique {E : Env} {c : Ctx} {e : Expr} {env : List (String × Val)} {pt : Savepoint} {w : World}
    {r1 r2 : Res} (h1 : Evaluates E c e env pt w r1) (h2 : Evaluates E c e env pt w r2) : r1 = r2 := by
  obtain ⟨n1, f1, e1⟩ := h1
  obtain ⟨n2, f2, e2⟩ := h2
  rcases Nat.le_total f1 f2 with hle | hle
  · have := eval_mono E hle c e env pt w (by rw [e1]; exact n1)
    rw [e1, e2] at this; exact this.symm
  · have := eval_mono E hle c e env pt w (by rw [e2]; exact n2)
    rw [e1, e2] at this; exact this

theorem evalLoop_env {rec : Rec} (c : Ctx) (e : Expr) (env : List (String × Val)) (k : Nat) : ∀ pt w acc,
    (evalLoop rec c e k env pt w acc).Sat (fun _ _ env' _ => env' = env) (fun env' _ => env' = env) (fun _ => True) := by
  induction k with
  | zero => exact fun _ _ _ => trivial
  | succ k ih =>
    exact fun pt w acc => (Res.sat_true _).on (fun _ pt1 _ w1 _ => ih pt1 w1 _)
      (fun _ _ _ => iteInduction (fun _ => rfl) (fun _ => rfl))

section
variable (E : Env) (c : Ctx)

theorem evalLit_nil (ic : Bool) (pt : Savepoint) (w : World) : evalLit E c ic [] pt w = (some pt, w) := rfl

theorem evalLit_cons (ic : Bool) (r : Rune) (rs : List Rune) (pt : Savepoint) (w : World) :
    evalLit E c ic (r :: rs) pt w =
      (let cur := if ic then E.toLower pt.rn else pt.rn
       if cur ≠ r || pt.w = 0 then (none, w)
       else
         let (pt', w') := advance E c pt w
         evalLit E c ic rs pt' w') := rfl

end

end Spec
end PV
