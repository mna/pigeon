/-
  The labelled-failure semantics, read off the independent specification `Spec.eval` (Spec/Peg.lean) - the declarative
  form of C14 - and transferred to the runtime model by the refinement theorem (Proofs/Refine.lean).

  In `Spec` the handlers in force are an ARGUMENT of the evaluation (`Ctx.handlers`, innermost first): there is no
  handler stack to keep balanced, so "handlers are in force only while their guarded expression is being evaluated" is
  true by construction - `e //{L…} r` evaluates `e` with one more frame and passes nothing on.
-/
import PigeonVerif.Proofs.Refine

namespace PV
namespace Spec

/-- `e //{L…} r` IS `e` evaluated with one more handler frame (each listed label ↦ `r`); the frame is not part of the
    result: whatever follows is evaluated with the handlers that were in force before -/
theorem recovery_is_guarded_eval (E : Env) (f : Nat) (c : Ctx) (id : Nat) (e1 r : Expr) (labels : List String)
    (env : List (String × Val)) (pt : Savepoint) (w : World) :
    eval E (f + 1) c (.recovery id e1 r labels) env pt w =
      eval E f { c with handlers := (labels.map (fun l => (l, r))).reverse :: c.handlers } e1 env pt w := rfl

/-- a throw evaluates to the handler search over the frames in force, innermost first, AT THE THROW POSITION -/
theorem throw_is_handler_search (E : Env) (f : Nat) (c : Ctx) (id : Nat) (label : String)
    (env : List (String × Val)) (pt : Savepoint) (w : World) :
    eval E (f + 1) c (.throw id label) env pt w = evalThrow (eval E f) c label c.handlers env pt w := rfl

section
variable (rec : Ctx → Expr → List (String × Val) → Savepoint → World → Res)

/-- no operator listing the label is being evaluated: the throw fails like an ordinary mismatch - nothing consumed, the
    scope and the world untouched -/
theorem throw_unhandled (c : Ctx) (label : String) (hs : List (List (String × Expr))) (env : List (String × Val))
    (pt : Savepoint) (w : World) (h : ∀ fr ∈ hs, lookup label fr = none) :
    evalThrow rec c label hs env pt w = .fail env w := by
  induction hs with
  | nil => rfl
  | cons fr frs ih =>
    rw [evalThrow_cons, h fr List.mem_cons_self]
    exact ih (fun fr' hf => h fr' (List.mem_cons_of_mem _ hf))

/-- frames that do not list the label are skipped -/
theorem throw_skips (c : Ctx) (label : String) (fr : List (String × Expr)) (hs : List (List (String × Expr)))
    (env : List (String × Val)) (pt : Savepoint) (w : World) (h : lookup label fr = none) :
    evalThrow rec c label (fr :: hs) env pt w = evalThrow rec c label hs env pt w := by
  rw [evalThrow_cons, h]

/-- the innermost operator listing the label: its recovery expression runs at the throw position, in the scope of the throw
    site; if it matches, parsing continues after it with its value in place of the throw -/
theorem throw_recovered (c : Ctx) (label : String) (fr : List (String × Expr)) (hs : List (List (String × Expr)))
    (r : Expr) (env : List (String × Val)) (pt : Savepoint) (w : World) (v : Val) (pt' : Savepoint)
    (env' : List (String × Val)) (w' : World)
    (hl : lookup label fr = some r) (hr : rec c r env pt w = .ok v pt' env' w') :
    evalThrow rec c label (fr :: hs) env pt w = .ok v pt' env' w' := by
  rw [evalThrow_cons, hl]
  exact congrArg (Res.on · _ _) hr

/-- if it fails, the next enclosing operator listing the label is tried - at the SAME position (the failed recovery expression
    consumed nothing), with whatever the failed attempt left in the world (errors, globalStore) -/
theorem throw_next_handler (c : Ctx) (label : String) (fr : List (String × Expr)) (hs : List (List (String × Expr)))
    (r : Expr) (env : List (String × Val)) (pt : Savepoint) (w : World) (env' : List (String × Val)) (w' : World)
    (hl : lookup label fr = some r) (hr : rec c r env pt w = .fail env' w') :
    evalThrow rec c label (fr :: hs) env pt w = evalThrow rec c label hs env' pt w' := by
  rw [evalThrow_cons, hl]
  exact congrArg (Res.on · _ _) hr

end
end Spec

namespace RT

/-- **C14 for the runtime model, in the declarative form**: in the plain configuration (no Memoize, no budget, no
    left-recursive rules) what the runtime computes for ANY expression - throw and recovery operators included, at any
    nesting, from any state the parser can be in - is what the labelled-failure semantics above prescribes: the runtime's
    handler stack is the specification's handler argument (`ctxOf`), its result the specification's result. -/
theorem throw_recover_is_spec (E : Env) (hp : Plain E) (f : Nat) (e : Expr) (s : PState) (hg : Good E s) :
    abs (parseExpr E f e s) = Spec.eval E f (ctxOf s) e (envOf s) s.pt (absW s) :=
  parseExpr_refines hp f e s hg

end RT
end PV
