/-
  -optimize-parser for grammars WITHOUT state-change blocks: the optimized parser has no state store
  at all (`{{ if or .GlobalState (not .Optimize) }}`), the standard one has. The two are the same
  parser up to that store: erasing the store (and the store columns of the block trace) from a run of
  the standard parser gives exactly the run of the optimized parser, provided the code blocks do not
  look at the store (in the optimized parser they cannot: `c.state` does not exist there).

  The two runs start in different states (`s` and `er s`), so this is a traversal of its own. Its leaves: the erasure
  commutes with every state operation (`er_*`), it absorbs `restoreState` (`er_restoreState`), which the optimized
  parser does not have (`restoreState2`), and a block called on the empty store returns what it returns on any other
  (`callBlock_er`). `Er.bind` is the one rule for a recursive call followed by a continuation. The invariant `Inv` is
  there for `throw`, which evaluates handlers it finds in the state; the frame theorem carries it across calls.
-/
import PigeonVerif.Proofs.OptEquiv
import PigeonVerif.Proofs.FrameProof

namespace PV

mutual
/-- no state-change block anywhere in the expression -/
def Expr.noState : Expr → Bool
  | .stateCode _ _ => false
  | .action _ _ e | .and _ e | .not _ e | .labeled _ _ e | .oneOrMore _ e | .zeroOrMore _ e | .zeroOrOne _ e => e.noState
  | .recovery _ e r _ => e.noState && r.noState
  | .choice _ _ _ es | .seq _ es => noStateL es
  | .andCode _ _ | .notCode _ _ | .any _ | .cls _ _ | .lit _ _ _ _ | .ruleRef _ _ | .throw _ _ => true
def noStateL : List Expr → Bool
  | [] => true
  | e :: es => e.noState && noStateL es
end

namespace RT

/-- the code blocks neither read nor write the state store -/
structure StateBlind (E : Env) : Prop where
  indep : ∀ blk (ctx : Ctx) (st : Store),
    (E.code.run blk { ctx with state := st }).ret = (E.code.run blk ctx).ret ∧
    (E.code.run blk { ctx with state := st }).retB = (E.code.run blk ctx).retB ∧
    (E.code.run blk { ctx with state := st }).err = (E.code.run blk ctx).err ∧
    (E.code.run blk { ctx with state := st }).panic = (E.code.run blk ctx).panic ∧
    (E.code.run blk { ctx with state := st }).global = (E.code.run blk ctx).global
  keeps : ∀ blk (ctx : Ctx), (E.code.run blk ctx).state = ctx.state

def erEv (ev : Event) : Event := { ev with state := [], sout := [] }
/-- forget the state store -/
def er (s : PState) : PState := { s with state := [], trace := s.trace.map erEv }

def _root_.PV.Outcome.mapS (f : PState → PState) : Outcome → Outcome
  | .oof => .oof
  | .panic p s => .panic p (f s)
  | .done v ok s => .done v ok (f s)

/-- handler expressions in force contain no state block -/
def NS (s : PState) : Prop := ∀ fr ∈ s.recoveryStack, ∀ p ∈ fr, p.2.noState = true

structure Inv (s : PState) : Prop where
  ns : NS s
  memo : MemoOK s

theorem Inv.congr {s s' : PState} (h : Inv s) (h1 : s'.recoveryStack = s.recoveryStack) (h2 : s'.memo = s.memo) : Inv s' :=
  ⟨by unfold NS; rw [h1]; exact h.ns, h.memo.congr h2⟩

/-! ### the state operations commute with the erasure -/

@[simp] theorem er_popV (s : PState) : er (popV s) = popV (er s) := rfl
@[simp] theorem er_bump (s : PState) : er (bump s) = bump (er s) := rfl
@[simp] theorem er_hit (s : PState) : er (hit s) = hit (er s) := rfl
@[simp] theorem er_popRecovery (s : PState) : er (popRecovery s) = popRecovery (er s) := rfl
@[simp] theorem er_setMemoized (s : PState) (p : Savepoint) (k : MemoKey) (t : MemoVal) :
    er (setMemoized s p k t) = setMemoized (er s) p k t := rfl
@[simp] theorem er_incChoiceAlt (s : PState) (l c : Nat) (a : Option Nat) : er (incChoiceAlt s l c a) = incChoiceAlt (er s) l c a := rfl
@[simp] theorem er_setLabel (s : PState) (l : String) (v : Val) : er (setLabel s l v) = setLabel (er s) l v := by
  unfold setLabel er; simp only []; split <;> rfl
@[simp] theorem er_restore (s : PState) (pt : Savepoint) : er (restore s pt) = restore (er s) pt :=
  (apply_ite er ..).trans rfl
@[simp] theorem er_pt (s : PState) : (er s).pt = s.pt := rfl
@[simp] theorem er_errs (s : PState) : (er s).errs = s.errs := rfl
@[simp] theorem er_vstack (s : PState) : (er s).vstack = s.vstack := rfl
@[simp] theorem er_rstack (s : PState) : (er s).rstack = s.rstack := rfl
@[simp] theorem er_recoveryStack (s : PState) : (er s).recoveryStack = s.recoveryStack := rfl
@[simp] theorem er_state (s : PState) : (er s).state = [] := rfl
@[simp] theorem er_maxFailInvert (s : PState) : (er s).maxFailInvert = s.maxFailInvert := rfl

/-- case on the one conditional that stands under a record update; `er` distributes over the others -/
theorem er_failAtCore (s : PState) (b : Bool) (p : Pos) (w : String) : er (failAtCore s b p w) = failAtCore (er s) b p w := by
  have hp : (er s).maxFailPos = s.maxFailPos := rfl
  by_cases h : p.off > s.maxFailPos.off <;>
    simp only [failAtCore, er_maxFailInvert, hp, h, if_true, if_false, apply_ite er] <;> rfl

@[simp] theorem er_failAt (s : PState) (b : Bool) (p : Pos) (w : String) : er (failAt s b p w) = failAt (er s) b p w :=
  congrArg (fun x : PState => { x with attempts := { pos := p, want := w, matched := b, neg := s.maxFailInvert } :: s.attempts })
    (er_failAtCore s b p w)

/-- the erasure does not see what `restoreState` writes -/
@[simp] theorem er_restoreState (E : Env) (s : PState) (st : Store) : er (restoreState E s st) = er s := by
  rw [restoreState_writes]; rfl

theorem er_addErrAt (E1 E2 : Env) (h : E2.opts = E1.opts) (s : PState) (m : String) (p : Pos) :
    er (addErrAt E1 s m p) = addErrAt E2 (er s) m p := by
  unfold addErrAt errPrefix
  simp only [h, er_rstack]
  rfl

/-! ### primitives that depend on the environment -/

abbrev E1 (E : Env) : Env := withOptimize E false
abbrev E2 (E : Env) : Env := withOptimize E true

section
variable {E : Env}

theorem useState1 : (E1 E).useState = true := by simp [Env.useState, withOptimize]
theorem useState2 (hg : E.flags.globalState = false) : (E2 E).useState = false := by
  simp [Env.useState, withOptimize, hg]

/-- the optimized parser has no store to restore -/
theorem restoreState2 (hg : E.flags.globalState = false) (s : PState) (st : Store) : restoreState (E2 E) s st = s := by
  unfold restoreState; rw [useState2 hg]; rfl

theorem er_addErr (s : PState) (m : String) : er (addErr (E1 E) s m) = addErr (E2 E) (er s) m := by
  unfold addErr; exact er_addErrAt _ _ rfl s m _
theorem er_addErrAtOpt (s : PState) (o : Option String) (p : Pos) :
    er (addErrAtOpt (E1 E) s o p) = addErrAtOpt (E2 E) (er s) o p := by
  unfold addErrAtOpt; cases o with
  | none => rfl
  | some m => exact er_addErrAt _ _ rfl s m p
theorem er_addErrOpt (s : PState) (o : Option String) :
    er (addErrOpt (E1 E) s o) = addErrOpt (E2 E) (er s) o := by
  unfold addErrOpt; exact er_addErrAtOpt s o _

theorem er_read (s : PState) : er (read (E1 E) s) = read (E2 E) (er s) := by
  rw [read_eq, read_eq, apply_ite er, er_addErr]
  rfl

theorem sliceFrom_er (s : PState) (start : Savepoint) : sliceFrom (E2 E) (er s) start = sliceFrom (E1 E) s start := rfl

/-- a block run on the empty store returns what it returns on any other, and leaves the empty store -/
theorem StateBlind.run_er (hb : StateBlind E) (blk : Nat) (ctx : Ctx) :
    E.code.run blk { ctx with state := [] } = { E.code.run blk ctx with state := [] } := by
  obtain ⟨h1, h2, h3, h4, h5⟩ := hb.indep blk ctx []
  have h6 := hb.keeps blk { ctx with state := [] }
  generalize E.code.run blk { ctx with state := [] } = a at *
  cases a
  simp only [] at h1 h2 h3 h4 h5 h6
  subst h1 h2 h3 h4 h5 h6
  rfl

/-- one code-block invocation: the optimized parser's block sees the empty store -/
theorem callBlock_er (hg : E.flags.globalState = false) (hb : StateBlind E) (blk : Nat) (s : PState) :
    callBlock (E2 E) blk (er s) = ({ (callBlock (E1 E) blk s).1 with state := [] }, er (callBlock (E1 E) blk s).2) := by
  have h := hb.run_er blk
    { pos := s.curPos, text := s.curText, args := (E.code.args blk).map fun n => (lookup n (s.vstack.headD [])).getD .nil,
      state := s.state, global := s.global, calli := s.nCalls }
  unfold callBlock
  simp only [useState1, useState2 hg, if_true, Bool.false_eq_true, if_false]
  exact Prod.ext h (by erw [h]; rfl)

end

@[simp] theorem mapS_done (f : PState → PState) (v : Val) (ok : Bool) (s : PState) :
    (Outcome.done v ok s).mapS f = .done v ok (f s) := rfl

theorem matchOne_er {E : Env} (s : PState) (w : String) :
    (matchOne (E1 E) s w).mapS er = matchOne (E2 E) (er s) w := by
  unfold matchOne
  simp only [mapS_done, er_failAt]
  rw [← er_read]
  rfl

theorem parseCharClass_er {E : Env} (c : ClassDesc) (s : PState) :
    (parseCharClass (E1 E) c s).mapS er = parseCharClass (E2 E) c (er s) := by
  unfold parseCharClass
  simp only [apply_ite (Outcome.mapS er), mapS_done, er_failAt, matchOne_er]
  rfl

theorem parseAny_er {E : Env} (s : PState) : (parseAny (E1 E) s).mapS er = parseAny (E2 E) (er s) := by
  unfold parseAny
  simp only [apply_ite (Outcome.mapS er), mapS_done, er_failAt, matchOne_er]
  rfl

theorem lit_er {E : Env} (start : Savepoint) (want : String) (ic : Bool) (rs : List Rune) : ∀ (s : PState),
    (parseLit (E1 E) start want ic rs s).mapS er = parseLit (E2 E) start want ic rs (er s) := by
  induction rs with
  | nil => exact fun s => by simp only [parseLit_nil, mapS_done, er_failAt, sliceFrom_er]
  | cons r rs ih =>
    intro s
    rw [parseLit_cons, parseLit_cons, apply_ite (Outcome.mapS er), ih, er_read]
    simp only [mapS_done, er_restore, er_failAt]
    rfl

/-- `o'` is `o` with the store erased, and `o` ends in a state that satisfies the invariant -/
def Er (o o' : Outcome) : Prop := o.mapS er = o' ∧ o.Sat (fun _ _ s => Inv s) fun _ => True

/-- the one rule for a call followed by a continuation -/
theorem Er.bind {o o' : Outcome} {k k' : Val → Bool → PState → Outcome} (h : Er o o')
    (hk : ∀ v ok s, Inv s → (k v ok s).mapS er = k' v ok (er s)) : (o.bind k).mapS er = o'.bind k' := by
  obtain ⟨rfl, hs⟩ := h
  cases o with
  | oof => rfl
  | panic p s => rfl
  | done v ok s => exact hk v ok s hs

/-- an evaluation leaves the handler stack as it was, and the memo table sound -/
theorem Inv.frame {E : Env} {s : PState} {o : Outcome} (hi : Inv s) (h : FrameInv E s o) :
    o.Sat (fun _ _ s1 => Inv s1) fun _ => True :=
  (h hi.memo).imp fun _ _ _ h => ⟨by unfold NS; rw [h.stk.recov]; exact hi.ns, h.memo⟩

section main
variable {E : Env} {rec1 rec2 : Expr → PState → Outcome}
variable (hg : E.flags.globalState = false) (hmz : E.opts.memoize = false) (hb : StateBlind E)
  (hG : ∀ n r, E.findRule n = some r → r.expr.noState = true)
  (hrec : ∀ e s, e.noState = true → Inv s → (rec1 e s).mapS er = rec2 e (er s))
  (hfr : ∀ e s, FrameInv (E1 E) s (rec1 e s))
include hmz hrec hfr

theorem call_er (e : Expr) (s : PState) (he : e.noState = true) (hi : Inv s) :
    Er (parseExprWrap (E1 E) rec1 e s) (parseExprWrap (E2 E) rec2 e (er s)) := by
  rw [wrap_eq (E := E1 E) hmz, wrap_eq (E := E2 E) hmz]
  exact ⟨hrec e s he hi, hi.frame (hfr e s)⟩

theorem rule_er (r : Rule) (s : PState) (hr : r.expr.noState = true) (hi : Inv s) :
    Er (parseRule (E1 E) rec1 r s) (parseRule (E2 E) rec2 r (er s)) :=
  ⟨(call_er hmz hrec hfr r.expr (pushV { s with rstack := r :: s.rstack }) hr (hi.congr rfl rfl)).bind fun _ _ _ _ => rfl,
   hi.frame (rule_frame hfr r s)⟩

theorem loop_er (e : Expr) (he : e.noState = true) (k : Nat) : ∀ (s : PState) (acc : List Val), Inv s →
    (parseLoop (E1 E) rec1 e k s acc).mapS er = parseLoop (E2 E) rec2 e k (er s) acc := by
  induction k with
  | zero => exact fun _ _ _ => rfl
  | succ k ih =>
    intro s acc hi
    refine (call_er hmz hrec hfr e (pushV s) he (hi.congr rfl rfl)).bind fun v ok s1 hi1 => ?_
    cases ok
    · cases acc <;> rfl
    · exact ih (popV s1) (v :: acc) (hi1.congr rfl rfl)

theorem throw_er (label : String) (frames : List (List (String × Expr))) (hall : ∀ fr ∈ frames, ∀ p ∈ fr, p.2.noState = true) :
    ∀ (s : PState), Inv s →
      (parseThrow (E1 E) rec1 label frames s).mapS er = parseThrow (E2 E) rec2 label frames (er s) := by
  induction frames with
  | nil => exact fun _ _ => rfl
  | cons fr frs ih =>
    intro s hi
    have ⟨hfr1, hfrs⟩ := List.forall_mem_cons.1 hall
    rw [parseThrow_cons, parseThrow_cons]
    cases hl : lookup label fr with
    | none => exact ih hfrs s hi
    | some r =>
      refine (call_er hmz hrec hfr r s (hfr1 _ (lookup_mem hl)) hi).bind fun v ok s1 hi1 => ?_
      cases ok
      · exact ih hfrs s1 hi1
      · rfl

include hg

theorem seq_er (pt : Savepoint) (st st' : Store) (es : List Expr) (hes : noStateL es = true) : ∀ (s : PState) (acc : List Val),
    Inv s → (parseSeq (E1 E) rec1 pt st es s acc).mapS er = parseSeq (E2 E) rec2 pt st' es (er s) acc := by
  induction es with
  | nil => exact fun _ _ _ => rfl
  | cons e es ih =>
    intro s acc hi
    have hes := Bool.and_eq_true_iff.1 hes
    refine (call_er hmz hrec hfr e s hes.1 hi).bind fun v ok s1 hi1 => ?_
    cases ok
    · simp only [Bool.false_eq_true, if_false, mapS_done, er_restore, er_restoreState, restoreState2 hg]
    · exact ih hes.2 s1 _ hi1

theorem choice_er (line col : Nat) (alts : List Expr) (hes : noStateL alts = true) : ∀ (i : Nat) (s : PState), Inv s →
    (parseChoice (E1 E) rec1 line col alts i s).mapS er = parseChoice (E2 E) rec2 line col alts i (er s) := by
  induction alts with
  | nil => exact fun _ _ _ => rfl
  | cons a alts ih =>
    intro i s hi
    have hes := Bool.and_eq_true_iff.1 hes
    refine (call_er hmz hrec hfr a (pushV s) hes.1 (hi.congr rfl rfl)).bind fun v ok s1 hi1 => ?_
    cases ok
    · refine (ih hes.2 (i + 1) _ (hi1.congr (by simp) (by simp))).trans ?_
      simp only [Bool.false_eq_true, if_false, er_restoreState, restoreState2 hg, er_popV]
    · rfl

theorem leaderLoop_er (r : Rule) (hr : r.expr.noState = true) (startMark : Savepoint) (k : Nat) :
    ∀ (depth : Nat) (last : MemoVal) (lastErrs : List String) (s : PState), Inv s →
      (last.b = false → last.end.pos.off = startMark.pos.off) →
      (leaderLoop (E1 E) rec1 r startMark k depth last lastErrs s).mapS er =
        leaderLoop (E2 E) rec2 r startMark k depth last lastErrs (er s) := by
  induction k with
  | zero => exact fun _ _ _ _ _ _ => rfl
  | succ k ih =>
    intro depth last lastErrs s hi hl
    rw [leaderLoop_succ, leaderLoop_succ]
    refine (rule_er hmz hrec hfr r (setMemoized s startMark (.rule r.name) last) hr ⟨hi.ns, hi.memo.set hl⟩).bind
      fun v ok s2 hi2 => ?_
    rw [apply_ite (Outcome.mapS er)]
    refine ite_rel (fun _ => ?_) (fun hc => ?_)
    · rw [mapS_done, er_setMemoized, er_restore, restoreState_writes (E1 E), restoreState2 hg]
      rfl
    · exact (ih _ _ _ _ (hi2.congr (by simp) (by simp)) fun hb => Bool.noConfusion ((growGo hc).1.symm.trans (hb : ok = false))).trans
        (by rw [er_restore]; rfl)

theorem ruleWrap_er (k : Nat) (r : Rule) (s : PState) (hr : r.expr.noState = true) (hi : Inv s) :
    (parseRuleWrap (E1 E) rec1 k r s).mapS er = parseRuleWrap (E2 E) rec2 k r (er s) := by
  have hmode : ruleMode (E2 E) r = ruleMode (E1 E) r :=
    ruleMode_congr (E1 := E1 E) (E2 := E2 E) rfl ((memoize_off (E := E2 E) hmz).trans (memoize_off (E := E1 E) hmz).symm) r
  rw [parseRuleWrap_eq, parseRuleWrap_eq, hmode]
  cases hrm : ruleMode (E1 E) r with
  | leader =>
    show (parseRuleLeader (E1 E) rec1 k r s).mapS er = parseRuleLeader (E2 E) rec2 k r (er s)
    unfold parseRuleLeader
    rw [show getMemoized (er s) (.rule r.name) = getMemoized s (.rule r.name) from rfl]
    cases getMemoized s (.rule r.name) with
    | some res => simp only [mapS_done, er_restore]
    | none => exact leaderLoop_er hg hmz hrec hfr r hr s.pt k 0 _ s.errs s hi fun _ => rfl
  | plain => exact (rule_er hmz hrec hfr r s hr hi).1
  | memo => exact absurd hrm (ruleMode_ne_memo (E := E1 E) hmz r)

include hb hG in
theorem body_er (k : Nat) (e : Expr) (s : PState) (he : e.noState = true) (hi : Inv s) :
    (parseExprBody (E1 E) rec1 k e s).mapS er = parseExprBody (E2 E) rec2 k e (er s) := by
  have call := call_er hmz hrec hfr
  cases e with
  | stateCode id blk => cases he
  | andCode id blk | notCode id blk =>
    dsimp only [parseExprBody, parseAndCode, parseNotCode, runCodeBlock]
    rw [callBlock_er hg hb]
    cases (callBlock (E1 E) blk s).1.panic with
    | some p => rfl
    | none => simp only [mapS_done, er_restoreState, restoreState2 hg, er_addErrOpt]
  | any id => exact parseAny_er s
  | cls id c => exact parseCharClass_er c s
  | lit id val ic want => exact lit_er _ _ _ _ _
  | action id blk e1 =>
    refine (call e1 s he hi).bind fun v ok s1 _ => ?_
    cases ok
    · rfl
    · simp only [if_true]
      rw [show ({ er s1 with curPos := (er s).pt.pos, curText := sliceFrom (E2 E) (er s1) (er s).pt } : PState) =
        er { s1 with curPos := s.pt.pos, curText := sliceFrom (E1 E) s1 s.pt } from rfl, callBlock_er hg hb]
      simp only []
      cases (callBlock (E1 E) blk { s1 with curPos := s.pt.pos, curText := sliceFrom (E1 E) s1 s.pt }).1.panic with
      | some p => rfl
      | none => simp only [mapS_done, er_restoreState, restoreState2 hg, er_addErrAtOpt, er_pt]
  | and id e1 =>
    refine (call e1 (pushV s) he (hi.congr rfl rfl)).bind fun v ok s1 _ => ?_
    simp only [mapS_done, er_restore, er_restoreState, restoreState2 hg, er_popV, er_pt]
  | not id e1 =>
    refine (call e1 { pushV s with maxFailInvert := !s.maxFailInvert } he (hi.congr rfl rfl)).bind fun v ok s1 _ => ?_
    simp only [mapS_done, er_restore, er_restoreState, restoreState2 hg, er_pt]
    rfl
  | labeled id l e1 =>
    refine (call e1 (pushV s) he (hi.congr rfl rfl)).bind fun v ok s1 _ => ?_
    simp only [mapS_done, apply_ite er, er_setLabel, er_popV]
  | zeroOrOne id e1 => exact (call e1 (pushV s) he (hi.congr rfl rfl)).bind fun _ _ _ _ => rfl
  | recovery id e1 r labels =>
    have he := Bool.and_eq_true_iff.1 he
    refine (call e1 (pushRecovery s labels r) he.1 ⟨List.forall_mem_cons.2 ⟨fun p hp => ?_, hi.ns⟩, hi.memo⟩).bind fun _ _ _ _ => rfl
    obtain ⟨l, _, rfl⟩ := List.mem_map.1 (List.mem_reverse.1 hp)
    exact he.2
  | choice id line col alts => exact choice_er hg hmz hrec hfr line col alts he 0 s hi
  | seq id es => exact seq_er hg hmz hrec hfr s.pt s.state (er s).state es he s [] hi
  | oneOrMore id e1 => exact loop_er hmz hrec hfr e1 he k s [] hi
  | zeroOrMore id e1 =>
    dsimp only [parseExprBody, parseZeroOrMore]
    rw [← loop_er hmz hrec hfr e1 he k s [] hi]
    cases parseLoop (E1 E) rec1 e1 k s [] with
    | done v ok s1 => cases ok <;> rfl
    | _ => rfl
  | throw id label => exact throw_er hmz hrec hfr label s.recoveryStack hi.ns s hi
  | ruleRef id name =>
    dsimp only [parseExprBody, parseRuleRef]
    split
    · rfl
    · rw [show (E2 E).findRule name = (E1 E).findRule name from rfl]
      cases hf : (E1 E).findRule name with
      | none => simp only [mapS_done, er_addErr]
      | some r => exact ruleWrap_er hg hmz hrec hfr k r s (hG name r hf) hi

end main

/-- the erased run of the standard parser IS the run of the optimized parser, at every depth -/
theorem parseExpr_er (E : Env) (hg : E.flags.globalState = false) (hmz : E.opts.memoize = false) (hb : StateBlind E)
    (hG : ∀ n r, E.findRule n = some r → r.expr.noState = true) :
    ∀ (f : Nat) (e : Expr) (s : PState), e.noState = true → Inv s →
      (parseExpr (E1 E) f e s).mapS er = parseExpr (E2 E) f e (er s) := by
  intro f
  induction f with
  | zero => exact fun _ _ _ _ => rfl
  | succ f ih =>
    intro e s he hi
    rw [parseExpr_step, parseExpr_step, apply_ite (Outcome.mapS er),
      body_er hg hmz hb hG ih (parseExpr_frame (E1 E) f) f e (bump s) he (hi.congr rfl rfl)]
    rfl

def Final.mapS (f : PState → PState) : Final → Final
  | .oof => .oof
  | .ret v errs s => .ret v errs (f s)
  | .panic p s => .panic p (f s)

theorem finish_er (E : Env) (o : Outcome) :
    (finish (E1 E) o).mapS er = finish (E2 E) (o.mapS er) := by
  cases o with
  | oof => rfl
  | panic p s =>
    show Final.mapS er (if (E1 E).opts.recover then _ else _) = if (E1 E).opts.recover then _ else _
    rw [apply_ite (Final.mapS er), ← er_addErr]
    rfl
  | done v ok s =>
    cases ok with
    | true => rfl
    | false =>
      show Final.mapS er (if s.errs.isEmpty then _ else _) = if s.errs.isEmpty then _ else _
      rw [apply_ite (Final.mapS er), ← er_addErrAt (E1 E) (E2 E) rfl]
      rfl

end RT
end PV
