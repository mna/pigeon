/-
  Equations of the runtime model, stated once, in the order of Model/Runtime.lean: the fields each state operation
  writes and `read` through the pure position function, the cases of `parseExprWrap`, one step of each recursive
  procedure, the procedure `parseRuleWrap` selects and the cases of a rule reference, of a one-rune matcher, one level
  of `parseExpr`, and `parse` as `finish` of the entry rule's run. The proofs use the recursive procedures through these
  equations and never unfold them by name (Lean would derive their equation lemmas again in every module that does).
-/
import PigeonVerif.Model.Runtime

namespace PV

/-- a `bind` that returns normally: its first part did, and the continuation returned the result -/
theorem Outcome.bind_eq_done {o : Outcome} {k : Val → Bool → PState → Outcome} {v : Val} {ok : Bool} {s' : PState}
    (h : o.bind k = .done v ok s') : ∃ v1 ok1 s1, o = .done v1 ok1 s1 ∧ k v1 ok1 s1 = .done v ok s' := by
  cases o with
  | done v1 ok1 s1 => exact ⟨v1, ok1, s1, rfl, h⟩
  | oof => nomatch h
  | panic p s1 => nomatch h

namespace RT

/-! ### rule lookup, `Env.memoize` -/

theorem findRule_mem {E : Env} {n : String} {r : Rule} (hf : E.findRule n = some r) : r ∈ E.rules ∧ r.name = n := by
  unfold Env.findRule at hf
  have h1 := List.mem_of_find?_eq_some hf
  have h2 := List.find?_some hf
  exact ⟨List.mem_reverse.mp h1, by simpa using h2⟩

/-- a property of every rule a lookup can return follows from the same property of every rule in the list -/
theorem forall_findRule {E : Env} {P : String → Rule → Prop} (h : ∀ r ∈ E.rules, P r.name r) :
    ∀ n r, E.findRule n = some r → P n r :=
  fun _ r hf => (findRule_mem hf).2 ▸ h r (findRule_mem hf).1

theorem findRule_name {E : Env} {n : String} {r : Rule} (h : E.findRule n = some r) : r.name = n :=
  (findRule_mem h).2

theorem memoize_off {E : Env} (hmz : E.opts.memoize = false) : E.memoize = false := by
  unfold Env.memoize; rw [hmz]; rfl

theorem memoize_of {E : Env} (ho : E.flags.optimize = false) (hm : E.opts.memoize = true) : E.memoize = true := by
  unfold Env.memoize; rw [ho, hm]; rfl

/-! ### which fields each state operation writes

  The operations that branch are equal to one record update of the fields they may write; the projections
  of every other field follow by `congrArg` (Proofs/Frame.lean). -/

theorem setLabel_writes (s : PState) (l : String) (v : Val) :
    setLabel s l v = { s with vstack := (setLabel s l v).vstack } := by
  unfold setLabel; split <;> rfl

theorem addErrAtOpt_writes (E : Env) (s : PState) (o : Option String) (p : Pos) :
    addErrAtOpt E s o p = { s with errs := (addErrAtOpt E s o p).errs } := by
  cases o <;> rfl

theorem failAt_writes (s : PState) (b : Bool) (p : Pos) (w : String) :
    failAt s b p w = { s with maxFailPos := (failAt s b p w).maxFailPos,
                              maxFailExpected := (failAt s b p w).maxFailExpected,
                              attempts := (failAt s b p w).attempts } := by
  -- of `failAtCore`, branch by branch, with any log `a` in place of the one `failAt` writes (`split` on the whole equation is slow to check)
  let P (x : PState) : Prop := ∀ a, { x with attempts := a } =
    { s with maxFailPos := x.maxFailPos, maxFailExpected := x.maxFailExpected, attempts := a }
  refine iteInduction (motive := P) (fun _ => iteInduction (motive := P) (fun _ _ => rfl) fun _ => ?_) (fun _ _ => rfl) _
  dsimp only
  split <;> exact fun _ => rfl

/-- the savepoint `read` moves to (the part of `read` that does not touch the error list) -/
def nextPt (inp : List Nat) (pt : Savepoint) : Savepoint :=
  let off := pt.pos.off + pt.w
  let d := decodeRune (inp.drop off)
  if d.1 = 10 then { pos := { line := pt.pos.line + 1, col := 0, off := off }, rn := d.1, w := d.2 }
  else { pos := { line := pt.pos.line, col := pt.pos.col + 1, off := off }, rn := d.1, w := d.2 }

@[simp] theorem nextPt_off (inp : List Nat) (pt : Savepoint) : (nextPt inp pt).pos.off = pt.pos.off + pt.w := by
  unfold nextPt; simp only []; split <;> rfl

theorem nextPt_rn_w (inp : List Nat) (pt : Savepoint) :
    (nextPt inp pt).rn = (decodeRune (inp.drop (pt.pos.off + pt.w))).1 ∧
    (nextPt inp pt).w = (decodeRune (inp.drop (pt.pos.off + pt.w))).2 := by
  unfold nextPt; simp only []; split <;> exact ⟨rfl, rfl⟩

/-- `read` in terms of the pure position function -/
theorem read_eq (E : Env) (s : PState) :
    read E s =
      (if (nextPt E.input s.pt).rn = runeError ∧ (nextPt E.input s.pt).w = 1 ∧ E.opts.allowInvalid = false
       then addErr E { s with pt := nextPt E.input s.pt } errInvalidEncoding
       else { s with pt := nextPt E.input s.pt }) := by
  unfold read nextPt
  dsimp only
  by_cases h : (decodeRune (E.input.drop (s.pt.pos.off + s.pt.w))).1 = 10 <;> simp only [h, if_true, if_false] <;>
    exact ite_congr (by simp [and_assoc]) (fun _ => rfl) (fun _ => rfl)

/-- `read` writes the savepoint and the error list, nothing else -/
theorem read_fields (E : Env) (s : PState) : ∃ errs, read E s = { s with pt := nextPt E.input s.pt, errs := errs } := by
  rw [read_eq]; split
  · exact ⟨_, rfl⟩
  · exact ⟨_, rfl⟩

theorem read_pt (E : Env) (s : PState) : (read E s).pt = nextPt E.input s.pt := by
  obtain ⟨_, h⟩ := read_fields E s
  rw [h]

theorem read_writes (E : Env) (s : PState) :
    read E s = { s with pt := (read E s).pt, errs := (read E s).errs } := by
  obtain ⟨_, h⟩ := read_fields E s
  rw [h]

theorem restore_writes (s : PState) (p : Savepoint) : restore s p = { s with pt := (restore s p).pt } := by
  unfold restore; split <;> rfl

theorem restoreState_writes (E : Env) (s : PState) (st : Store) :
    restoreState E s st = { s with state := (restoreState E s st).state } := by
  unfold restoreState; split <;> rfl

/-! ### the memo table -/

theorem getMemoized_congr {s s' : PState} (h1 : s'.memo = s.memo) (h2 : s'.pt.pos.off = s.pt.pos.off) (k : MemoKey) :
    getMemoized s' k = getMemoized s k := by
  unfold getMemoized; rw [h1, h2]

theorem getMemoized_mem {s : PState} {k : MemoKey} {r : MemoVal} (h : getMemoized s k = some r) :
    ((s.pt.pos.off, k), r) ∈ s.memo := by
  obtain ⟨⟨⟨o, k'⟩, r'⟩, hf, rfl⟩ := Option.map_eq_some_iff.1 h
  have hp := List.find?_some hf
  simp only [Bool.and_eq_true, decide_eq_true_eq] at hp
  exact hp.1 ▸ hp.2 ▸ List.mem_of_find?_eq_some hf

theorem getMemoized_none {s : PState} {k : MemoKey} (h : getMemoized s k = none) (v : MemoVal) :
    ((s.pt.pos.off, k), v) ∉ s.memo :=
  fun hm => by simpa using List.find?_eq_none.mp (Option.map_eq_none_iff.mp h) _ hm

/-! ### `parseExprWrap` -/

/-- `parseExprWrap`: the memo table is consulted iff `Env.memoize` and the innermost rule is not left-recursive -/
theorem parseExprWrap_eq (E : Env) (rec : Expr → PState → Outcome) (e : Expr) (s : PState) :
    parseExprWrap E rec e s =
      if E.memoize && !topIsLR E s then
        match getMemoized s (.expr e.id) with
        | some res =>
          if hitsOverBudget E (hit s) then .panic (.err errMaxExprCnt) (hit s)
          else .done res.v res.b (restore (hit s) res.end)
        | none =>
          (rec e s).bind fun v ok s1 =>
            .done v ok (setMemoized s1 s.pt (.expr e.id) { v := v, b := ok, «end» := s1.pt })
      else rec e s := by
  unfold parseExprWrap Env.memoize
  cases E.flags.optimize <;> cases E.opts.memoize <;> rfl

/-- `parseExprWrap` is the plain call, a memo hit (charged to the budget), or the call followed by a memo entry -/
theorem parseExprWrap_cases {E : Env} {rec : Expr → PState → Outcome} {e : Expr} {s : PState} {Q : Outcome → Prop}
    (plain : Q (rec e s))
    (hit : ∀ res, E.memoize = true → getMemoized s (.expr e.id) = some res →
      Q (if hitsOverBudget E (hit s) then .panic (.err errMaxExprCnt) (hit s)
         else .done res.v res.b (restore (hit s) res.end)))
    (miss : Q ((rec e s).bind fun v ok s1 =>
      .done v ok (setMemoized s1 s.pt (.expr e.id) { v := v, b := ok, «end» := s1.pt }))) :
    Q (parseExprWrap E rec e s) := by
  rw [parseExprWrap_eq]
  refine iteInduction (fun hm => ?_) (fun _ => plain)
  cases h : getMemoized s (.expr e.id) with
  | none => exact miss
  | some res => exact hit res (Bool.and_eq_true_iff.1 hm).1 h

/-- without `Memoize` the wrapper is the bare call -/
theorem wrap_eq {E : Env} {rec : Expr → PState → Outcome} (hmz : E.opts.memoize = false) (e : Expr) (s : PState) :
    parseExprWrap E rec e s = rec e s := by
  rw [parseExprWrap_eq, memoize_off hmz]; rfl

/-! ### one step of the recursive procedures -/

section
variable {E : Env} (rec : Expr → PState → Outcome)

theorem parseSeq_nil (pt : Savepoint) (st : Store) (s : PState) (acc : List Val) :
    parseSeq E rec pt st [] s acc = .done (.list acc.reverse) true s := rfl

theorem parseChoice_nil (line col i : Nat) (s : PState) :
    parseChoice E rec line col [] i s = .done .nil false (incChoiceAlt s line col none) := rfl

theorem parseLoop_zero (e : Expr) (s : PState) (acc : List Val) : parseLoop E rec e 0 s acc = .oof := rfl

theorem parseThrow_nil (label : String) (s : PState) : parseThrow E rec label [] s = .done .nil false s := rfl

theorem parseLit_nil (start : Savepoint) (want : String) (ic : Bool) (s : PState) :
    parseLit E start want ic [] s = .done (.bytes (sliceFrom E s start)) true (failAt s true start.pos want) := rfl

theorem parseSeq_cons (pt : Savepoint) (st : Store) (e : Expr) (es : List Expr) (s : PState) (acc : List Val) :
    parseSeq E rec pt st (e :: es) s acc =
      (parseExprWrap E rec e s).bind fun v ok s1 =>
        if ok then parseSeq E rec pt st es s1 (v :: acc) else .done .nil false (restore (restoreState E s1 st) pt) := rfl

theorem parseChoice_cons (line col : Nat) (a : Expr) (alts : List Expr) (i : Nat) (s : PState) :
    parseChoice E rec line col (a :: alts) i s =
      (parseExprWrap E rec a (pushV s)).bind fun v ok s1 =>
        if ok then .done v true (incChoiceAlt (popV s1) line col (some i))
        else parseChoice E rec line col alts (i + 1) (restoreState E (popV s1) s.state) := rfl

theorem parseLoop_succ (e : Expr) (k : Nat) (s : PState) (acc : List Val) :
    parseLoop E rec e (k + 1) s acc =
      (parseExprWrap E rec e (pushV s)).bind fun v ok s1 =>
        if ok then parseLoop E rec e k (popV s1) (v :: acc)
        else if acc.isEmpty then .done .nil false (popV s1) else .done (.list acc.reverse) true (popV s1) := rfl

theorem parseThrow_cons (label : String) (fr : List (String × Expr)) (frs : List (List (String × Expr))) (s : PState) :
    parseThrow E rec label (fr :: frs) s =
      match lookup label fr with
      | some r =>
        (parseExprWrap E rec r s).bind fun v ok s1 => if ok then .done v true s1 else parseThrow E rec label frs s1
      | none => parseThrow E rec label frs s := rfl

theorem parseLit_cons (start : Savepoint) (want : String) (ic : Bool) (r : Rune) (rs : List Rune) (s : PState) :
    parseLit E start want ic (r :: rs) s =
      if litCur E ic s ≠ r || s.pt.w = 0 then .done .nil false (restore (failAt s false start.pos want) start)
      else parseLit E start want ic rs (read E s) := rfl

theorem parseRule_eq (r : Rule) (s : PState) :
    parseRule E rec r s =
      (parseExprWrap E rec r.expr (pushV { s with rstack := r :: s.rstack })).bind fun v ok s2 =>
        .done v ok { popV s2 with rstack := (popV s2).rstack.tail } := rfl

theorem leaderLoop_succ (r : Rule) (startMark : Savepoint) (k depth : Nat) (last : MemoVal) (lastErrs : List String)
    (s : PState) :
    leaderLoop E rec r startMark (k + 1) depth last lastErrs s =
      (parseRule E rec r (setMemoized s startMark (.rule r.name) last)).bind fun v ok s2 =>
        if !ok || (s2.pt.pos.off ≤ last.end.pos.off && depth ≠ 0) then
          .done last.v last.b
            (setMemoized (restore { restoreState E s2 s.state with errs := lastErrs } last.end) startMark (.rule r.name) last)
        else leaderLoop E rec r startMark k (depth + 1) { v := v, b := ok, «end» := s2.pt } s2.errs (restore s2 startMark) :=
  rfl

/-- the test at the end of a round of `leaderLoop`, when it lets the loop go on -/
theorem growGo {ok : Bool} {a b depth : Nat} (h : ¬ (!ok || (decide (a ≤ b) && decide (depth ≠ 0))) = true) :
    ok = true ∧ (depth ≠ 0 → b < a) := by
  cases ok with
  | false => exact absurd rfl h
  | true => exact ⟨rfl, fun hd => Nat.lt_of_not_le fun hle => h (by simp [hle, hd])⟩

end

/-! The same steps once the call at the head has returned: `_ok` when it matched, `_fail` when it did not. -/

section
variable {E : Env} {rec : Expr → PState → Outcome}

theorem parseSeq_cons_ok {pt : Savepoint} {st : Store} {e : Expr} {es : List Expr} {s s1 : PState} {acc : List Val} {v : Val}
    (h : parseExprWrap E rec e s = .done v true s1) :
    parseSeq E rec pt st (e :: es) s acc = parseSeq E rec pt st es s1 (v :: acc) := by
  rw [parseSeq_cons, h]; rfl

theorem parseSeq_cons_fail {pt : Savepoint} {st : Store} {e : Expr} {es : List Expr} {s s1 : PState} {acc : List Val} {v : Val}
    (h : parseExprWrap E rec e s = .done v false s1) :
    parseSeq E rec pt st (e :: es) s acc = .done .nil false (restore (restoreState E s1 st) pt) := by
  rw [parseSeq_cons, h]; rfl

theorem parseChoice_cons_ok {line col i : Nat} {a : Expr} {alts : List Expr} {s s1 : PState} {v : Val}
    (h : parseExprWrap E rec a (pushV s) = .done v true s1) :
    parseChoice E rec line col (a :: alts) i s = .done v true (incChoiceAlt (popV s1) line col (some i)) := by
  rw [parseChoice_cons, h]; rfl

theorem parseChoice_cons_fail {line col i : Nat} {a : Expr} {alts : List Expr} {s s1 : PState} {v : Val}
    (h : parseExprWrap E rec a (pushV s) = .done v false s1) :
    parseChoice E rec line col (a :: alts) i s =
      parseChoice E rec line col alts (i + 1) (restoreState E (popV s1) s.state) := by
  rw [parseChoice_cons, h]; rfl

theorem parseLoop_succ_ok {e : Expr} {k : Nat} {s s1 : PState} {acc : List Val} {v : Val}
    (h : parseExprWrap E rec e (pushV s) = .done v true s1) :
    parseLoop E rec e (k + 1) s acc = parseLoop E rec e k (popV s1) (v :: acc) := by
  rw [parseLoop_succ, h]; rfl

theorem parseLoop_succ_fail {e : Expr} {k : Nat} {s s1 : PState} {acc : List Val} {v : Val}
    (h : parseExprWrap E rec e (pushV s) = .done v false s1) :
    parseLoop E rec e (k + 1) s acc =
      if acc.isEmpty then .done .nil false (popV s1) else .done (.list acc.reverse) true (popV s1) := by
  rw [parseLoop_succ, h]; rfl

/-! `parseRuleLeader` when the memo table answers (a hit) and when it does not (a miss). -/

theorem parseRuleLeader_hit {k : Nat} {r : Rule} {s : PState} {res : MemoVal} (h : getMemoized s (.rule r.name) = some res) :
    parseRuleLeader E rec k r s = .done res.v res.b (restore s res.end) := by
  unfold parseRuleLeader; rw [h]

theorem parseRuleLeader_miss {k : Nat} {r : Rule} {s : PState} (h : getMemoized s (.rule r.name) = none) :
    parseRuleLeader E rec k r s = leaderLoop E rec r s.pt k 0 { v := .nil, b := false, «end» := s.pt } s.errs s := by
  unfold parseRuleLeader; rw [h]

end

/-! ### `parseRuleWrap`, a rule reference -/

/-- which of its three procedures `parseRuleWrap` runs for a rule -/
inductive RuleMode where
  | leader | memo | plain

/-- the decision of `parseRuleWrap` (one nested `if` per template shape): it reads `leftRec`, `Env.memoize` and the
    rule's two marks -/
def ruleMode (E : Env) (r : Rule) : RuleMode :=
  if E.flags.leftRec && r.leader && (E.memoize || r.leftRecursive) then .leader
  else if E.memoize && (!E.flags.leftRec || !r.leftRecursive) then .memo
  else .plain

def RuleMode.run (E : Env) (rec : Expr → PState → Outcome) (k : Nat) (r : Rule) (s : PState) : RuleMode → Outcome
  | .leader => parseRuleLeader E rec k r s
  | .memo => parseRuleMemoize E rec r s
  | .plain => parseRule E rec r s

theorem parseRuleWrap_eq (E : Env) (rec : Expr → PState → Outcome) (k : Nat) (r : Rule) (s : PState) :
    parseRuleWrap E rec k r s = (ruleMode E r).run E rec k r s := by
  unfold parseRuleWrap ruleMode Env.memoize
  cases E.flags.leftRec
  · cases E.flags.optimize <;> cases E.opts.memoize <;> rfl
  · cases E.flags.optimize <;> cases E.opts.memoize <;> cases r.leftRecursive <;> cases r.leader <;> rfl

/-- what holds of the three procedures holds of `parseRuleWrap` -/
theorem parseRuleWrap_of {E : Env} {rec : Expr → PState → Outcome} {k : Nat} {r : Rule} {s : PState} {Q : Outcome → Prop}
    (hl : ruleMode E r = .leader → Q (parseRuleLeader E rec k r s))
    (hm : ruleMode E r = .memo → Q (parseRuleMemoize E rec r s))
    (hp : ruleMode E r = .plain → Q (parseRule E rec r s)) : Q (parseRuleWrap E rec k r s) := by
  rw [parseRuleWrap_eq]
  cases h : ruleMode E r with
  | leader => exact hl h
  | memo => exact hm h
  | plain => exact hp h

theorem ruleMode_congr {E1 E2 : Env} (hl : E2.flags.leftRec = E1.flags.leftRec) (hm : E2.memoize = E1.memoize) (r : Rule) :
    ruleMode E2 r = ruleMode E1 r := by
  unfold ruleMode; rw [hl, hm]

theorem ruleMode_ne_memo {E : Env} (hmz : E.opts.memoize = false) (r : Rule) : ruleMode E r ≠ .memo := by
  unfold ruleMode; rw [memoize_off hmz]
  split <;> exact RuleMode.noConfusion

/-- without left-recursion support every rule is memoized or none is -/
theorem ruleMode_nolr {E : Env} (h : E.flags.leftRec = false) (r : Rule) :
    ruleMode E r = if E.memoize then .memo else .plain := by
  unfold ruleMode; rw [h]; cases E.memoize <;> rfl

/-- a rule reference: no name, no such rule, or the rule's procedure -/
theorem parseRuleRef_cases {E : Env} {rec : Expr → PState → Outcome} {k : Nat} {name : String} {s : PState}
    {Q : Outcome → Prop} (noName : Q (.panic (.str "invalid rule: missing name") s))
    (undef : Q (.done .nil false (addErr E s ("undefined rule: " ++ name))))
    (found : ∀ r, E.findRule name = some r → Q (parseRuleWrap E rec k r s)) : Q (parseRuleRef E rec k name s) := by
  refine iteInduction (fun _ => noName) (fun _ => ?_)
  split
  · exact undef
  · next r h => exact found r h

/-- the configuration in which the plain PEG semantics applies -/
structure Plain (E : Env) : Prop where
  nomemo : E.opts.memoize = false
  nobudget : E.opts.maxExpr = none
  nolr : ∀ n r, E.findRule n = some r → r.leftRecursive = false ∧ r.leader = false

/-- in the plain configuration every rule runs `parseRule` -/
theorem ruleWrap_eq {E : Env} {rec : Expr → PState → Outcome} (hp : Plain E) (k : Nat) (name : String) (r : Rule)
    (hf : E.findRule name = some r) (s : PState) : parseRuleWrap E rec k r s = parseRule E rec r s := by
  obtain ⟨h1, h2⟩ := hp.nolr name r hf
  have hm : ruleMode E r = .plain := by unfold ruleMode; rw [memoize_off hp.nomemo, h1, h2]; cases E.flags.leftRec <;> rfl
  rw [parseRuleWrap_eq, hm]; rfl

/-! ### the one-rune matchers -/

/-- a one-rune matcher either fails where it stands or, not being at the end of the input, takes the rune -/
theorem parseCharClass_cases {E : Env} {c : ClassDesc} {s : PState} {Q : Outcome → Prop}
    (fail : Q (.done .nil false (failAt s false s.pt.pos c.val)))
    (one : ¬ (s.pt.rn = runeError ∧ s.pt.w = 0) → Q (matchOne E s c.val)) : Q (parseCharClass E c s) := by
  unfold parseCharClass
  refine iteInduction (fun hbl => iteInduction (fun _ => one ?_) (fun _ => fail))
    (fun _ => iteInduction (fun _ => fail) (fun hg => iteInduction (fun _ => one (by simpa using hg)) (fun _ => fail)))
  intro h
  simp [h.1, runeError] at hbl

theorem parseAny_cases {E : Env} {s : PState} {Q : Outcome → Prop}
    (fail : Q (.done .nil false (failAt s false s.pt.pos ".")))
    (one : ¬ (s.pt.rn = runeError ∧ s.pt.w = 0) → Q (matchOne E s ".")) : Q (parseAny E s) :=
  iteInduction (fun _ => fail) (fun hg => one (by simpa using hg))

/-! ### a code block -/

/-- a code block run by a predicate or a state block: its panic, or the continuation on what it returned -/
theorem runCodeBlock_cases {E : Env} {blk : Nat} {s : PState} {k : BlockResult → PState → Outcome} {Q : Outcome → Prop}
    (panic : ∀ p, (callBlock E blk s).1.panic = some p → Q (.panic p (callBlock E blk s).2))
    (ret : (callBlock E blk s).1.panic = none →
      Q (k (callBlock E blk s).1 (addErrOpt E (callBlock E blk s).2 (callBlock E blk s).1.err))) :
    Q (runCodeBlock E blk s k) := by
  unfold runCodeBlock
  simp only []
  split
  · next p h => exact panic p h
  · next h => exact ret h

/-! ### one level of `parseExpr` -/

theorem overBudget_iff {E : Env} {n : Nat} (hn : E.opts.maxExpr = some n) (s : PState) :
    overBudget E s = true ↔ n < s.exprCnt := by
  simp [overBudget, hn]

theorem overBudget_none {E : Env} (h : E.opts.maxExpr = none) (s : PState) : overBudget E s = false := by
  unfold overBudget; rw [h]

/-- one level of `parseExpr`: the budget check, then the body with one unit of depth less -/
theorem parseExpr_step {E : Env} (f : Nat) (e : Expr) (s : PState) :
    parseExpr E (f + 1) e s =
      if overBudget E (bump s) then .panic (.err errMaxExprCnt) (bump s)
      else parseExprBody E (parseExpr E f) f e (bump s) := rfl

/-- without a budget one level of `parseExpr` is the body -/
theorem parseExpr_nobudget {E : Env} (hnb : E.opts.maxExpr = none) (f : Nat) (e : Expr) (s : PState) :
    parseExpr E (f + 1) e s = parseExprBody E (parseExpr E f) f e (bump s) := by
  rw [parseExpr_step, overBudget_none hnb]; rfl

/-! ### `parse` -/

/-- the state the entry rule starts in: the initial state at the first rune, with whatever `read` recorded. Facts about
    `startState` are read off this record; comparing states through `read E (initState E)` itself makes the
    unifier evaluate the decoder. -/
theorem startState_fields (E : Env) : ∃ errs, startState E =
    { initState E with pt := nextPt E.input (initState E).pt, maxFailPos := (nextPt E.input (initState E).pt).pos,
                       errs := errs } := by
  obtain ⟨errs, h⟩ := read_fields E (initState E)
  exact ⟨errs, by unfold startState; rw [h]⟩

/-- the entry rule starts from an empty table and a zero counter -/
theorem startState_empty (E : Env) : (startState E).memo = [] ∧ (startState E).exprCnt = 0 := by
  obtain ⟨_, h⟩ := startState_fields E
  rw [h]; exact ⟨rfl, rfl⟩

/-- the rule `parse` starts from, if there is one -/
def entryRule (E : Env) : Option Rule :=
  match E.rules with
  | [] => none
  | first :: _ => E.findRule (entryName E first)

/-- what `parse` returns when there is no rule to start from -/
def noEntry (E : Env) : Final :=
  let s := addErr E (initState E) (if E.rules.isEmpty then errNoRule else errInvalidEntrypoint)
  .ret .nil (dedupe s.errs) s

/-- the entry rule is a rule the grammar names -/
theorem entryRule_find {E : Env} {r : Rule} (h : entryRule E = some r) : ∃ n, E.findRule n = some r := by
  unfold entryRule at h
  split at h
  · cases h
  · exact ⟨_, h⟩

/-- `parse` is `finish` of the entry rule's outcome from the start state -/
theorem parse_eq (E : Env) (f : Nat) :
    parse E f = match entryRule E with
      | some r => finish E (parseRuleWrap E (parseExpr E f) f r (startState E))
      | none => noEntry E := by
  unfold parse entryRule noEntry
  cases E.rules with
  | nil => rfl
  | cons first _ =>
    dsimp only
    cases E.findRule (entryName E first) <;> rfl

/-- `finish` turns every outcome but `oof` into a result -/
theorem finish_eq_oof {E : Env} {o : Outcome} (h : finish E o = .oof) : o = .oof := by
  cases o with
  | oof => rfl
  | panic p s => simp only [finish] at h; split at h <;> cases h
  | done v ok s => simp only [finish] at h; split at h <;> (try split at h) <;> cases h

/-- the parse returns as soon as the run of the entry rule does -/
theorem parse_ne_oof {E : Env} {f : Nat}
    (h : ∀ r, entryRule E = some r → parseRuleWrap E (parseExpr E f) f r (startState E) ≠ .oof) : parse E f ≠ .oof := by
  rw [parse_eq]
  cases he : entryRule E with
  | none => exact Final.noConfusion
  | some r => exact fun ho => h r he (finish_eq_oof ho)

end RT
end PV
