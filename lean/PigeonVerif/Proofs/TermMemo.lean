/-
  Termination under a budget, EVERY option combination (Memoize on or off, all template
  switches, left recursion): with `MaxExpressions(n)`, `parseExpr` never runs out of fuel once
  `fuel + exprCnt + memoHits ≥ n + m + 2`, where `m` bounds the memo hits (`m = n` will always do; without
  Memoize the hit counter does not move and `m` may be its present value).

  Measure: `exprCnt + memoHits`. Every nested call and every loop iteration passes through
  `parseExprWrap`, which either evaluates the expression (`exprCnt` grows, and the call panics beyond
  `n`) or answers from the memo table (`memoHits` grows, and the hit panics once
  `exprCnt + memoHits > n`). Both counters are bounded on every normal return.
  (Before the repair of finding D15 memo hits were not charged and this theorem was false.)
-/
import PigeonVerif.Proofs.TermProof
import PigeonVerif.Proofs.Hits

namespace PV
namespace RT

/-- the measure of the termination proof: an evaluation charges the first counter, a memo hit the second -/
def cost (s : PState) : Nat := s.exprCnt + s.memoHits

/-- the counters are within their bounds `n`, `m`, and the measure is at least `c`. Before a call this says that the
    call returns (with `c` what the depth left requires); after a call from `s`, with `c = cost s + 1`, that the call has
    moved the measure. -/
structure Within (n m c : Nat) (s : PState) : Prop where
  memo : MemoOK s
  lo : c ≤ cost s
  cnt : s.exprCnt ≤ n
  hits : s.memoHits ≤ m

theorem Within.congr {n m c : Nat} {s s' : PState} (h : Within n m c s) (h1 : s'.memo = s.memo)
    (h2 : s'.exprCnt = s.exprCnt) (h3 : s'.memoHits = s.memoHits) : Within n m c s' :=
  ⟨h.memo.congr h1, by unfold cost; rw [h2, h3]; exact h.lo, h2 ▸ h.cnt, h3 ▸ h.hits⟩

/-- the state after a call from a state within the bounds is within them -/
theorem Within.after {n m c : Nat} {s s' : PState} (h' : Within n m (cost s + 1) s') (h : Within n m c s) : Within n m c s' :=
  ⟨h'.memo, Nat.le_trans (Nat.le_succ_of_le h.lo) h'.lo, h'.cnt, h'.hits⟩

/-- within the bounds the measure is at most `n + m`: fuel that covers `n + m + 2` is not used up -/
theorem Within.fuel_pos {n m c k : Nat} {s : PState} (h : Within n m c s) (hk : n + m + 2 ≤ k + cost s) : k ≠ 0 := by
  have := Nat.add_le_add h.cnt h.hits
  unfold cost at hk
  omega

/-- one unit of fuel pays for one move of the measure -/
theorem fuel_step {a k c c' : Nat} (hk : a ≤ k + 1 + c) (h : c + 1 ≤ c') : a ≤ k + c' := by omega

section
variable {E : Env} {rec : Expr → PState → Outcome} {n m c0 : Nat}

/-- every sub-call goes through here: it evaluates (`exprCnt` grows) or answers from the table (`memoHits` grows) -/
theorem wrap_grew (hn : E.opts.maxExpr = some n) (hm : E.memoize = true → n ≤ m) (hframe : ∀ e s, FrameInv E s (rec e s))
    (hrec : ∀ e s, Within n m c0 s → (rec e s).Ends fun _ _ s' => Within n m (cost s + 1) s')
    (e : Expr) (s : PState) (h : Within n m c0 s) :
    (parseExprWrap E rec e s).Ends fun _ _ s' => Within n m (cost s + 1) s' := by
  refine parseExprWrap_cases (Q := (Outcome.Ends · _)) (hrec e s h)
    (fun res hmz _ => Outcome.Ends.ite (fun _ => trivial) (fun hob => ?_))
    -- the new entry is sound: a failure ends where it started
    (((hrec e s h).and_sat (hframe e s h.memo)).bind fun _ _ _ h1 => ⟨h1.2.memo.set h1.1.failOff, h1.2.lo, h1.2.cnt, h1.2.hits⟩)
  exact (⟨h.memo, Nat.le_refl _, h.cnt, hit_le hn (hm hmz) hob⟩ : Within n m (cost s + 1) (RT.hit s)).congr
    restore.memo restore.exprCnt restore.memoHits

/-! The rest of the interpreter needs no more than that: every sub-call returns, and has moved the measure. -/

variable (hw : ∀ e s, Within n m c0 s → (parseExprWrap E rec e s).Ends fun _ _ s' => Within n m (cost s + 1) s')
include hw

/-- a sub-call on a fresh variable frame -/
theorem wrapV_grew (e : Expr) {s : PState} (h : Within n m c0 s) :
    (parseExprWrap E rec e (pushV s)).Ends fun _ _ s1 => Within n m (cost s + 1) (popV s1) :=
  (hw e (pushV s) (h.congr rfl rfl rfl)).mono fun _ _ _ h1 => h1.congr rfl rfl rfl

theorem seq_term (pt : Savepoint) (st : Store) (es : List Expr) : ∀ (s : PState) (acc : List Val),
    Within n m c0 s → (parseSeq E rec pt st es s acc).Term := by
  induction es with
  | nil => exact fun _ _ _ => .done
  | cons e es ih =>
    intro s acc h
    rw [parseSeq_cons]
    exact (hw e s h).bind_term fun v ok s1 h1 => .ite (fun _ => ih s1 _ (h1.after h)) (fun _ => .done)

theorem choice_term (line col : Nat) (alts : List Expr) : ∀ (i : Nat) (s : PState),
    Within n m c0 s → (parseChoice E rec line col alts i s).Term := by
  induction alts with
  | nil => exact fun _ _ _ => .done
  | cons a alts ih =>
    intro i s h
    rw [parseChoice_cons]
    exact (wrapV_grew hw a h).bind_term fun v ok s1 h1 => .ite (fun _ => .done) fun _ =>
      ih _ _ ((h1.after h).congr restoreState.memo restoreState.exprCnt restoreState.memoHits)

/-- a loop started with `k` iterations of fuel ends: each iteration moves the measure, which is at most `n + m` -/
theorem loop_term (e : Expr) (k : Nat) : ∀ (s : PState) (acc : List Val), Within n m c0 s →
    n + m + 2 ≤ k + cost s → (parseLoop E rec e k s acc).Term := by
  induction k with
  | zero => exact fun _ _ h hk => absurd rfl (h.fuel_pos hk)
  | succ k ih =>
    intro s acc h hk
    rw [parseLoop_succ]
    exact (wrapV_grew hw e h).bind_term fun v ok s1 h1 =>
      .ite (fun _ => ih _ _ (h1.after h) (fuel_step hk h1.lo)) (fun _ => .ite (fun _ => .done) (fun _ => .done))

theorem throw_term (label : String) (frames : List (List (String × Expr))) : ∀ (s : PState),
    Within n m c0 s → (parseThrow E rec label frames s).Term := by
  induction frames with
  | nil => exact fun _ _ => .done
  | cons fr frs ih =>
    intro s h
    rw [parseThrow_cons]
    split
    · exact (hw _ s h).bind_term fun v ok s1 h1 => .ite (fun _ => .done) (fun _ => ih s1 (h1.after h))
    · exact ih s h

theorem rule_grew (r : Rule) {s : PState} (h : Within n m c0 s) :
    (parseRule E rec r s).Ends fun _ _ s' => Within n m (cost s + 1) s' :=
  (hw r.expr (pushV { s with rstack := r :: s.rstack }) (h.congr rfl rfl rfl)).bind
    fun _ _ _ h2 => h2.congr rfl rfl rfl

/-- the seed-growing loop: each round evaluates the rule once -/
theorem leader_term (r : Rule) (startMark : Savepoint) (k : Nat) :
    ∀ (depth : Nat) (last : MemoVal) (lastErrs : List String) (s : PState), Within n m c0 s →
      (last.b = false → last.end.pos.off = startMark.pos.off) → n + m + 2 ≤ k + cost s →
      (leaderLoop E rec r startMark k depth last lastErrs s).Term := by
  induction k with
  | zero => exact fun _ _ _ _ h _ hk => absurd rfl (h.fuel_pos hk)
  | succ k ih =>
    intro depth last lastErrs s h hl hk
    rw [leaderLoop_succ]
    refine (rule_grew hw r ⟨h.memo.set hl, h.lo, h.cnt, h.hits⟩).bind_term fun v ok s2 h2 => .ite (fun _ => .done) fun hc => ?_
    obtain ⟨rfl, _⟩ := growGo hc
    have h3 : Within n m (cost s + 1) (restore s2 startMark) := h2.congr restore.memo restore.exprCnt restore.memoHits
    exact ih _ _ _ _ (h3.after h) nofun (fuel_step hk h3.lo)

theorem ruleWrap_term (k : Nat) (r : Rule) {s : PState} (h : Within n m c0 s) (hk : n + m + 2 ≤ k + cost s) :
    (parseRuleWrap E rec k r s).Term := by
  refine parseRuleWrap_of (Q := Outcome.Term) (fun _ => ?_) (fun _ => ?_) (fun _ => (rule_grew hw r h).term)
  · unfold parseRuleLeader
    split
    · exact .done
    · exact leader_term hw r s.pt k 0 _ s.errs s h (fun _ => rfl) hk
  · unfold parseRuleMemoize
    split
    · exact .done
    · exact (rule_grew hw r h).bind_term fun _ _ _ _ => .done

theorem body_term (k : Nat) (e : Expr) {s : PState} (h : Within n m c0 s) (hk : n + m + 2 ≤ k + cost s) :
    (parseExprBody E rec k e s).Term := by
  have wV := fun e' => wrapV_grew hw e' h
  cases e with
  | action id blk e1 =>
    refine (hw e1 s h).bind_term fun v ok s1 _ => .ite (fun _ => ?_) (fun _ => .done)
    simp only []
    split
    · exact .panic
    · exact .done
  | andCode | notCode | stateCode | any | cls | lit => exact leaf_term rec k _ s trivial
  | and id e1 => exact (wV e1).bind_term fun _ _ _ _ => .done
  | not id e1 =>
    exact (hw e1 { pushV s with maxFailInvert := !s.maxFailInvert } (h.congr rfl rfl rfl)).bind_term fun _ _ _ _ => .done
  | choice id line col alts => exact choice_term hw line col alts 0 s h
  | labeled id label e1 => exact (wV e1).bind_term fun _ _ _ _ => .done
  | oneOrMore id e1 => exact loop_term hw e1 k s [] h hk
  | zeroOrMore id e1 =>
    exact (loop_term hw e1 k s [] h hk).bind fun _ _ _ => .ite (fun _ => .done) (fun _ => .done)
  | zeroOrOne id e1 => exact (wV e1).bind_term fun _ _ _ _ => .done
  | recovery id e1 r labels =>
    exact (hw e1 (pushRecovery s labels r) (h.congr rfl rfl rfl)).bind_term fun _ _ _ _ => .done
  | ruleRef id name => exact parseRuleRef_cases .panic .done fun r _ => ruleWrap_term hw k r h hk
  | seq id es => exact seq_term hw _ _ es s [] h
  | throw id label => exact throw_term hw label _ s h

end

/-- what is known of one evaluation - it returns, the frame theorem, `exprCnt` strictly up, `memoHits` up and within
    `m` - put together -/
theorem Within.of_facts {E : Env} {n m c : Nat} (hn : E.opts.maxExpr = some n) {s : PState} {o : Outcome} (ht : o.Term)
    (hf : o.Sat (fun _ ok s' => Framed E s ok s') (fun s' => PanicPost E s s'))
    (hs : ∀ v ok s', o = .done v ok s' → s.exprCnt + 1 ≤ s'.exprCnt) (hh : o.HitsOK m s)
    (h : Within n m c s) : o.Ends fun _ _ s' => Within n m (cost s + 1) s' := by
  cases o with
  | oof => exact absurd rfl ht
  | panic p s' => trivial
  | done v ok s' =>
    exact ⟨hf.memo, Nat.le_trans (Nat.le_of_eq (Nat.add_right_comm ..)) (Nat.add_le_add (hs v ok s' rfl) hh.1),
      hf.stk.bnd n hn h.cnt, hh.2 h.hits⟩

/-- **Termination under a budget** (model level). With `MaxExpressions(n)` and a bound `m` on the memo hits - `m ≥ n` if
    the parser memoizes, any `m` if not - `parseExpr` with fuel `f` does not run out of fuel from a state whose counters
    are within `n` and `m` and whose measure `exprCnt + memoHits` is at least a `c` with `n + m + 2 ≤ f + c`; and a normal
    return has moved the measure and kept the counters within their bounds (frame theorem, `parseExpr_strict`,
    `parseExpr_hits`). -/
theorem parseExpr_grows (E : Env) {n m : Nat} (hn : E.opts.maxExpr = some n) (hm : E.memoize = true → n ≤ m) (f : Nat) :
    ∀ {c : Nat}, n + m + 2 ≤ f + c → ∀ (e : Expr) (s : PState), Within n m c s →
      (parseExpr E f e s).Ends fun _ _ s' => Within n m (cost s + 1) s' := by
  induction f with
  | zero => exact fun hc _ _ h => absurd rfl (h.fuel_pos (Nat.le_trans hc (Nat.add_le_add_left h.lo 0)))
  | succ f ih =>
    intro c hc e s h
    have ht : (parseExpr E (f + 1) e s).Term := by
      refine .ite (fun _ => .panic) (fun hob => ?_)
      have hlo : c + 1 ≤ cost (bump s) := Nat.le_trans (Nat.succ_le_succ h.lo) (Nat.le_of_eq (Nat.add_right_comm s.exprCnt s.memoHits 1))
      exact body_term (wrap_grew hn hm (parseExpr_frame E f) (ih (fuel_step hc (Nat.le_refl _)))) f e
        ⟨h.memo, hlo, Nat.le_of_not_lt (mt (overBudget_iff hn (bump s)).2 hob), h.hits⟩ (fuel_step hc hlo)
    exact Within.of_facts hn ht (parseExpr_frame E (f + 1) e s h.memo) (fun v ok s' => parseExpr_strict E (f + 1) e s s' v ok h.memo)
      (parseExpr_hits E hn hm (f + 1) e s) h

/-- the two special cases: any Memoize setting with `m = n`, and Memoize off with the hit counter where it stands -/
theorem parseExpr_term2 (E : Env) (n : Nat) (hn : E.opts.maxExpr = some n) (f : Nat) (e : Expr) (s : PState)
    (hm : MemoOK s) (h1 : 2 * n + 2 ≤ f + (s.exprCnt + s.memoHits)) (h2 : s.exprCnt ≤ n) (h3 : s.memoHits ≤ n) :
    (parseExpr E f e s).Term :=
  (parseExpr_grows E hn (fun _ => Nat.le_refl n) f (Nat.two_mul n ▸ h1) e s ⟨hm, Nat.le_refl _, h2, h3⟩).term

section
variable {E : Env} {rec : Expr → PState → Outcome} {n c0 : Nat}

/-- what is assumed of the recursive calls -/
structure RecOK2 (E : Env) (rec : Expr → PState → Outcome) (n c0 : Nat) : Prop where
  frame : ∀ e s, FrameInv E s (rec e s)
  strict : ∀ e s v ok s', MemoOK s → rec e s = .done v ok s' → s.exprCnt + 1 ≤ s'.exprCnt
  hits : ∀ e s, (rec e s).HitsOK n s
  term : ∀ e s, MemoOK s → c0 ≤ s.exprCnt + s.memoHits → s.exprCnt ≤ n → s.memoHits ≤ n → (rec e s).Term

theorem ruleWrap_term2 (hn : E.opts.maxExpr = some n) (h : RecOK2 E rec n c0) (k : Nat) (r : Rule) (s : PState)
    (hm : MemoOK s) (hc : c0 ≤ s.exprCnt + s.memoHits) (hb : s.exprCnt ≤ n) (hh : s.memoHits ≤ n)
    (hk : 2 * n + 2 ≤ k + (s.exprCnt + s.memoHits)) : (parseRuleWrap E rec k r s).Term :=
  ruleWrap_term
    (wrap_grew hn (fun _ => Nat.le_refl n) h.frame fun e s hW =>
      Within.of_facts hn (h.term e s hW.memo hW.lo hW.cnt hW.hits) (h.frame e s hW.memo)
        (fun v ok s' => h.strict e s v ok s' hW.memo) (h.hits e s) hW)
    k r ⟨hm, hc, hb, hh⟩ (Nat.two_mul n ▸ hk)

end

/-- the whole parse returns once the fuel covers the bounds of both counters -/
theorem parse_terminates (E : Env) {n m : Nat} (hn : E.opts.maxExpr = some n) (hm : E.memoize = true → n ≤ m)
    (fuel : Nat) (hf : n + m + 2 ≤ fuel) : parse E fuel ≠ .oof :=
  parse_ne_oof fun r _ => by
    have hW : Within n m 0 (startState E) := by
      obtain ⟨_, h⟩ := startState_fields E
      rw [h]
      exact ⟨fun _ he => (nomatch he), Nat.zero_le _, Nat.zero_le n, Nat.zero_le m⟩
    exact ruleWrap_term (wrap_grew hn hm (parseExpr_frame E fuel) (parseExpr_grows E hn hm fuel hf)) fuel r hW
      (Nat.le_add_right_of_le hf)

end RT
end PV
