/-
  The runtime model is monotone in its fuel, in EVERY configuration (memoization, left recursion,
  budget, all template switches): once `parseExpr` returns something other than "out of fuel",
  more fuel returns the same outcome. The fuel is therefore only a device for structural
  recursion: the outcome of a parse is unique (`Parses.unique`).
  Instance of Proofs/Follows.lean: same environment, guard "not out of fuel".
-/
import PigeonVerif.Proofs.Follows

namespace PV
namespace RT

def Ext (rec rec' : Rec) : Prop := ∀ e s, rec e s ≠ .oof → rec' e s = rec e s

theorem done_ne_oof (v : Val) (ok : Bool) (s : PState) : Outcome.done v ok s ≠ .oof := Outcome.noConfusion

section
variable {E : Env} {rec rec' : Rec} (h : Ext rec rec')
include h

theorem wrap_ext (e : Expr) (s : PState) :
    parseExprWrap E rec e s ≠ .oof → parseExprWrap E rec' e s = parseExprWrap E rec e s :=
  wrap_follows (G := (· ≠ .oof)) done_ne_oof (.refl E) (.of_eq rfl) h e s

theorem seq_ext (pt : Savepoint) (st : Store) (es : List Expr) (s : PState) (acc : List Val) :
    parseSeq E rec pt st es s acc ≠ .oof → parseSeq E rec' pt st es s acc = parseSeq E rec pt st es s acc :=
  seq_follows (G := (· ≠ .oof)) (P := fun _ => True) done_ne_oof (.refl E) (fun e _ => wrap_ext h e) pt st es
    (fun _ _ => trivial) s acc

theorem choice_ext (line col : Nat) (alts : List Expr) (i : Nat) (s : PState) :
    parseChoice E rec line col alts i s ≠ .oof → parseChoice E rec' line col alts i s = parseChoice E rec line col alts i s :=
  choice_follows (G := (· ≠ .oof)) (P := fun _ => True) done_ne_oof (.refl E) (fun e _ => wrap_ext h e) line col alts
    (fun _ _ => trivial) i s

theorem loop_ext (e : Expr) (k k' : Nat) (s : PState) (acc : List Val) (hk : k ≤ k') :
    parseLoop E rec e k s acc ≠ .oof → parseLoop E rec' e k' s acc = parseLoop E rec e k s acc := by
  obtain ⟨d, rfl⟩ := Nat.le.dest hk
  exact loop_follows (G := (· ≠ .oof)) (P := fun _ => True) done_ne_oof (fun e _ => wrap_ext h e) d (absurd rfl) trivial k s acc

theorem rule_ext (r : Rule) (s : PState) : parseRule E rec r s ≠ .oof → parseRule E rec' r s = parseRule E rec r s :=
  rule_follows (G := (· ≠ .oof)) (P := fun _ => True) done_ne_oof (fun e _ => wrap_ext h e) trivial s

theorem leaderLoop_ext (r : Rule) (startMark : Savepoint) (k k' depth : Nat) (last : MemoVal) (lastErrs : List String)
    (s : PState) (hk : k ≤ k') : leaderLoop E rec r startMark k depth last lastErrs s ≠ .oof →
      leaderLoop E rec' r startMark k' depth last lastErrs s = leaderLoop E rec r startMark k depth last lastErrs s := by
  obtain ⟨d, rfl⟩ := Nat.le.dest hk
  exact leaderLoop_follows (G := (· ≠ .oof)) (P := fun _ => True) done_ne_oof (.refl E) (fun e _ => wrap_ext h e) d (absurd rfl)
    trivial startMark k depth last lastErrs s

end

/-- **Fuel monotonicity of the runtime**, every configuration. -/
theorem parseExpr_mono (E : Env) {f f' : Nat} (hf : f ≤ f') : Ext (parseExpr E f) (parseExpr E f') := by
  obtain ⟨d, rfl⟩ := Nat.le.dest hf
  exact parseExpr_follows (G := (· ≠ .oof)) done_ne_oof (.refl E) (.of_eq rfl) d (absurd rfl) f

/-- raise the depth of a converged call -/
theorem lift {E : Env} {f F : Nat} {e : Expr} {s : PState} {o : Outcome} (hle : f ≤ F) (ho : parseExpr E f e s = o)
    (hne : o ≠ .oof) : parseExpr E F e s = o := by
  rw [parseExpr_mono E hle e s (by rw [ho]; exact hne), ho]

/-- "expression `e` in state `s` has outcome `o`" -/
def Parses (E : Env) (e : Expr) (s : PState) (o : Outcome) : Prop := o ≠ .oof ∧ ∃ f, parseExpr E f e s = o

theorem Parses.unique {E : Env} {e : Expr} {s : PState} {o1 o2 : Outcome}
    (h1 : Parses E e s o1) (h2 : Parses E e s o2) : o1 = o2 := by
  obtain ⟨n1, f1, rfl⟩ := h1
  obtain ⟨n2, f2, rfl⟩ := h2
  rcases Nat.le_total f1 f2 with hle | hle
  · exact (parseExpr_mono E hle e s n1).symm
  · exact parseExpr_mono E hle e s n2

/-- the whole parse: more fuel, same final result -/
theorem parse_mono (E : Env) {f f' : Nat} (hf : f ≤ f') (hne : parse E f ≠ .oof) : parse E f' = parse E f := by
  obtain ⟨d, rfl⟩ := Nat.le.dest hf
  exact (SameTop.refl E).parse (G := (· ≠ .oof)) done_ne_oof (.of_eq rfl) d (absurd rfl) fun r he ho =>
    hne (by rw [parse_eq, he]; exact congrArg (finish E) ho)

end RT
end PV
