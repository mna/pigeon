/-
  The labels the generator hands to a code block (`Back.walk`, the model of `writeExprCode`'s stack of label lists) are the
  labels that are bound at run time when the block is called — in the independent PEG semantics `Spec.eval`, which the
  runtime model is proved to refine (Proofs/Refine.lean).

  `env_binds`: a successful match of `e` extends the scope it was started in by exactly `Back.binds e` (most recent first),
  whatever happened inside the scopes `e` opened and closed on the way. With `Back.walk_cur` (the generator's list after
  visiting `e` is `cur ++ binds e`) this makes the static list and the dynamic scope the same list at every point of a
  sequence — in particular where an action is called (after its operand) and where a predicate / state block is called
  (between two items).

  Fragment: no throw and no recovery operator ON THE SPINE of the scope (the operand chain action → sequence → items);
  they may occur anywhere below a scope boundary. On the spine they are not covered: a recovery operator gets ONE list for the
  guarded and the recovery expression in the generator but shares the enclosing scope at run time, and a recovery
  expression runs in the scope of the THROW site.
-/
import PigeonVerif.Model.Back
import PigeonVerif.Proofs.SpecMono

namespace PV
namespace Back

mutual
/-- no throw / recovery operator among the nodes that share the scope of `e` -/
def spine : Expr → Bool
  | .action _ _ e => spine e
  | .seq _ es => spineSeq es
  | .recovery .. | .throw .. => false
  | _ => true
def spineSeq : List Expr → Bool
  | [] => true
  | e :: es => spine e && spineSeq es
end

abbrev keys (env : List (String × Val)) : List String := env.map (·.1)

section
variable (E : Env) (rec : Spec.Ctx → Expr → List (String × Val) → Savepoint → Spec.World → Spec.Res)

/-- a match extends the scope `ks` by `bs`, most recent first -/
abbrev Adds (bs ks : List String) : Spec.Res → Prop :=
  Spec.Res.Sat (fun _ _ env' _ => keys env' = bs.reverse ++ ks) (fun _ _ => True) (fun _ => True)

theorem Adds.append {bs1 bs2 ks ks1 : List String} {r : Spec.Res} (h1 : ks1 = bs1.reverse ++ ks) (h : Adds bs2 ks1 r) :
    Adds (bs1 ++ bs2) ks r := by
  rw [Adds, List.reverse_append, List.append_assoc, ← h1]; exact h

def RecOK : Prop := ∀ c e env pt w, spine e = true → Adds (binds e) (keys env) (rec c e env pt w)

theorem seq_binds (hrec : RecOK rec) (c : Spec.Ctx) (st0 : Store) (es : List Expr) :
    ∀ env pt w acc, spineSeq es = true → Adds (bindsSeq es) (keys env) (Spec.evalSeq E rec c st0 es env pt w acc) := by
  induction es with
  | nil => exact fun _ _ _ _ _ => rfl
  | cons e es ih =>
    intro env pt w acc hs
    obtain ⟨hs1, hs2⟩ := Bool.and_eq_true_iff.mp hs
    exact (hrec c e env pt w hs1).on (fun _ pt1 env1 w1 h1 => (ih env1 pt1 w1 _ hs2).append h1) (fun _ _ _ => trivial)

theorem choice_env (c : Spec.Ctx) (es : List Expr) (env : List (String × Val)) (pt : Savepoint) :
    ∀ w, Adds [] (keys env) (Spec.evalChoice E rec c es env pt w) := by
  induction es with
  | nil => exact fun _ => trivial
  | cons e es ih => exact fun w => (Spec.Res.sat_true _).on (fun _ _ _ _ _ => rfl) (fun _ _ _ => ih _)

theorem loop_env (c : Spec.Ctx) (e : Expr) (env : List (String × Val)) (k : Nat) (pt : Savepoint) (w : Spec.World) (acc : List Val) :
    Adds [] (keys env) (Spec.evalLoop rec c e k env pt w acc) :=
  (Spec.evalLoop_env c e env k pt w acc).imp (fun _ _ _ _ h => h ▸ rfl) (fun _ _ _ => trivial)

/-- Clause by clause: every construct but a labelled item, a sequence and an action hands
    back the scope it was given (its operands run in scopes of their own), so an `.ok` result carries `env` itself. -/
theorem step_binds (hrec : RecOK rec) (lf : Nat) : RecOK (Spec.evalStep E rec lf) := by
  intro c e env pt w hs
  cases e
  case lit id val ic want =>
    dsimp only [Spec.evalStep]
    generalize Spec.evalLit E c ic val pt w = p
    obtain ⟨_ | _, _⟩ := p
    · trivial
    · rfl
  case any id => dsimp only [Spec.evalStep]; exact iteInduction (fun _ => trivial) (fun _ => rfl)
  case cls id cd => dsimp only [Spec.evalStep]; exact iteInduction (fun _ => rfl) (fun _ => trivial)
  case seq id es => exact seq_binds E rec hrec c w.state es env pt w [] hs
  case choice id l cl es => exact choice_env E rec c es env pt w
  case zeroOrOne id e1 => exact (Spec.Res.sat_true (rec c e1 [] pt w)).on (fun _ _ _ _ _ => rfl) (fun _ _ _ => rfl)
  case and id e1 => exact (Spec.Res.sat_true (rec c e1 [] pt w)).on (fun _ _ _ _ _ => rfl) (fun _ _ _ => trivial)
  case not id e1 => exact (Spec.Res.sat_true (rec _ e1 [] pt w)).on (fun _ _ _ _ _ => trivial) (fun _ _ _ => rfl)
  case zeroOrMore id e1 =>
    dsimp only [Spec.evalStep]
    have hl := loop_env rec c e1 env lf pt w []
    generalize Spec.evalLoop rec c e1 lf env pt w [] = r at hl ⊢
    cases r with
    | fail _ _ => rfl
    | _ => exact hl
  case oneOrMore id e1 => exact loop_env rec c e1 env lf pt w []
  case labeled id l e1 =>
    refine (Spec.Res.sat_true (rec c e1 [] pt w)).on (fun v _ _ _ _ => ?_) (fun _ _ _ => trivial)
    show keys (if l ≠ "" then (l, v) :: env else env) = (if l = "" then [] else [l]).reverse ++ keys env
    by_cases hl : l = ""
    · rw [if_neg (fun hne => hne hl), if_pos hl]; rfl
    · rw [if_pos hl, if_neg hl]; rfl
  case action id blk e1 =>
    dsimp only [Spec.evalStep]
    have h1 := hrec c e1 env pt w hs
    generalize rec c e1 env pt w = r at h1 ⊢
    cases r with
    | ok v1 pt1 env1 w1 =>
      exact .orPanic trivial h1
    | _ => trivial
  case andCode id blk | notCode id blk =>
    dsimp only [Spec.evalStep]
    exact .orPanic trivial (iteInduction (fun _ => rfl) (fun _ => trivial))
  case stateCode id blk =>
    dsimp only [Spec.evalStep]
    exact iteInduction (fun _ => trivial) (fun _ => .orPanic trivial rfl)
  case ruleRef id name =>
    dsimp only [Spec.evalStep]
    refine iteInduction (fun _ => trivial) (fun _ => ?_)
    generalize E.findRule name = o
    cases o with
    | none => trivial
    | some r => exact (Spec.Res.sat_true (rec _ r.expr [] pt w)).on (fun _ _ _ _ _ => rfl) (fun _ _ _ => trivial)
  case recovery id e1 r ls => cases hs
  case throw id l => cases hs

end

theorem env_binds (E : Env) : ∀ (f : Nat), RecOK (Spec.eval E f)
  | 0 => fun _ _ _ _ _ _ => trivial
  | f + 1 => step_binds E (Spec.eval E f) (env_binds E f) f

end Back
end PV
