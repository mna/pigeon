/-
  Leader-free expressions: expressions from which no rule that runs the seed-growing loop can be reached. For such
  expressions the parser generated with `-support-left-recursion` and the ordinary parser compute the same function
  (`parseExpr_noLR`): the memo table is never consulted, so the evaluation is the plain PEG evaluation.
-/
import PigeonVerif.Proofs.AdvanceLR
import PigeonVerif.Proofs.Sim2
import PigeonVerif.Proofs.Follows

namespace PV

mutual
/-- every rule reference inside the expression names a rule of `S`; no throw / recover -/
def Expr.callsIn (S : String → Bool) : Expr → Bool
  | .ruleRef _ n => S n
  | .throw _ _ | .recovery _ _ _ _ => false
  | .action _ _ e | .and _ e | .not _ e | .labeled _ _ e | .oneOrMore _ e | .zeroOrMore _ e | .zeroOrOne _ e => e.callsIn S
  | .choice _ _ _ es | .seq _ es => callsInL S es
  | .andCode _ _ | .notCode _ _ | .stateCode _ _ | .any _ | .cls _ _ | .lit _ _ _ _ => true
def callsInL (S : String → Bool) : List Expr → Bool
  | [] => true
  | e :: es => e.callsIn S && callsInL S es
end

theorem callsInL_cons {S : String → Bool} {e : Expr} {es : List Expr} :
    callsInL S (e :: es) = true ↔ e.callsIn S = true ∧ callsInL S es = true := by
  simp only [callsInL, Bool.and_eq_true]

theorem callsInL_mem {S : String → Bool} {es : List Expr} (h : callsInL S es = true) : ∀ e ∈ es, e.callsIn S = true := by
  induction es with
  | nil => nofun
  | cons e es ih => exact List.forall_mem_cons.mpr ⟨(callsInL_cons.mp h).1, ih (callsInL_cons.mp h).2⟩

namespace RT

/-- the same grammar and code, generated WITHOUT `-support-left-recursion` -/
def dropLR (E : Env) : Env := { E with flags := { E.flags with leftRec := false } }

/-- ... and run without `Memoize`: the ordinary PEG parser -/
def noLR (E : Env) : Env := setMemo (dropLR E) false

/-- `S` is a set of rule names closed under "calls", none of which runs the seed-growing loop -/
structure LFSet (E : Env) (S : String → Bool) : Prop where
  closed : ∀ n r, S n = true → E.findRule n = some r → r.expr.callsIn S = true
  noleader : ∀ n r, S n = true → E.findRule n = some r → isLd r = false

section
variable {E : Env} (hc : LRCfg E)
variable {rec rec' : Expr → PState → Outcome}

theorem wrap_noLR (e : Expr) (s : PState) : parseExprWrap (noLR E) rec' e s = rec' e s :=
  wrap_eq (E := noLR E) rfl e s

include hc

theorem wrap_LR (e : Expr) (s : PState) : parseExprWrap E rec e s = rec e s := wrap_eq hc.nomemo e s

end

theorem callsIn_kids {S : String → Bool} : ∀ e : Expr, e.callsIn S = true → ∀ c ∈ e.kids, c.callsIn S = true := by
  intro e he c hc
  cases e with
  | action _ _ e | and _ e | not _ e | labeled _ _ e | oneOrMore _ e | zeroOrMore _ e | zeroOrOne _ e =>
    exact List.mem_singleton.mp hc ▸ he
  | choice _ _ _ es | seq _ es => exact callsInL_mem he c hc
  | recovery | throw => cases he
  | _ => cases hc

section
variable {E : Env} (hc : LRCfg E) {S : String → Bool} (hS : LFSet E S)
include hc

theorem ruleMode_noLR {r : Rule} (hl : isLd r = false) : ruleMode (noLR E) r = ruleMode E r := by
  rw [ruleMode_lr hc, hl]; rfl

include hS

/-- **Leader-free expressions are evaluated as the ordinary parser evaluates them.** -/
theorem parseExpr_noLR : ∀ (f : Nat) (e : Expr), e.callsIn S = true → ∀ s, parseExpr (noLR E) f e s = parseExpr E f e s
  | 0, _, _, _ => rfl
  | f + 1, e, he, s =>
    Follows.guard_ite (G := fun _ => True) (Or.inl rfl)
      (body_follows (E1 := E) (E2 := noLR E) (P := fun e => e.callsIn S = true) (fun _ _ _ => trivial)
        ⟨rfl, rfl, rfl, rfl, rfl, rfl, rfl, rfl⟩
        (fun e' he' s' _ => by rw [wrap_noLR, wrap_LR hc]; exact parseExpr_noLR f e' he' s') 0 (fun _ => rfl)
        callsIn_kids (fun _ _ h => by cases h)
        (fun _ n r hn hf => ⟨hS.closed n r hn hf, ruleMode_noLR hc (hS.noleader n r hn hf)⟩)
        f he (bump s)) trivial

end

/-! ### the ordinary parser: no memo table, progress -/

theorem ruleWrap_plain (E : Env) (rec : Expr → PState → Outcome) (k : Nat) (r : Rule) (s : PState) :
    parseRuleWrap (noLR E) rec k r s = parseRule (noLR E) rec r s :=
  parseRuleWrap_eq (noLR E) rec k r s

theorem FInv_noLR {E : Env} {s : PState} : FInv (noLR E) s ↔ FInv E s := Iff.rfl

/-- the ordinary parser never writes the memo table, and respects progress -/
theorem noLR_adv (E : Env) {rn : String → Bool}
    (hrn : ∀ n r, E.findRule n = some r → r.expr.nul rn = true → rn n = true) (m : List ((Nat × MemoKey) × MemoVal)) :
    ∀ (f : Nat) (e : Expr) (s : PState), FInv E s → s.memo = m →
      (parseExpr (noLR E) f e s).Sat (fun _ ok s' => s'.memo = m ∧ Adv rn e s ok s') (fun _ => True) :=
  have hJ : MemoInv (fun t : PState => t.memo = m) := ⟨fun _ _ h hj => by rw [h]; exact hj⟩
  adv_gen (E := noLR E) hJ rfl fun f ih k name r s hf hi hj => by
    rw [ruleWrap_plain]
    exact rule_adv_named hJ (E := noLR E) rfl (parseExpr_frame (noLR E) f) ih hrn hf s hi hj

end RT
end PV
