/-
  Well-formed grammars terminate (Ford's well-formedness, for the runtime model).

  `WFG E rn rank`: plain configuration; `rn` is a closed nullability oracle for the rules; every repetition has a
  non-nullable body, there is no throw/recover (`Expr.wfs`); and `rank` is a witness that the FIRST graph — rule `n` →
  every rule that `n`'s body can reach without consuming input (`Expr.first`) — has no cycle: every such edge goes to a
  rule of smaller rank. That is exactly "no rule can reach itself at the same input position" (C07).

  `wf_terminates`: then for every code environment, every input and every state, every expression evaluates at some finite
  depth — the parser cannot recurse without bound, and cannot loop, without any budget. It is the instance of
  `Conv.lean` with the invariant `FInv`, the measure "input left" and no leaders.
-/
import PigeonVerif.Proofs.Conv

namespace PV
namespace RT

section
variable {E : Env} {rn : String → Bool} {rank : String → Nat}

/-- the grammar has no rule that can reach itself at the same position (ranking witness), no repetition over a
    nullable body, no throw/recover; plain configuration -/
structure WFG (E : Env) (rn : String → Bool) (rank : String → Nat) : Prop where
  plain : Plain E
  closed : ∀ n r, E.findRule n = some r → r.expr.nul rn = true → rn n = true
  shape : ∀ n r, E.findRule n = some r → r.expr.wfs rn = true
  ranked : ∀ n r, E.findRule n = some r → ∀ m ∈ r.expr.first rn, rank m < rank n

/-- plain configuration: invariant `FInv`, measure "input left", no leaders -/
theorem plain_rctx (h : WFG E rn rank) : RuleCtx E rn (FInv E) (rem E) rank (fun _ => False) where
  nomemo := h.plain.nomemo
  nobudget := h.plain.nobudget
  icongr := fun _ _ hi h1 h2 => hi.congr h1 h2
  mcongr := fun _ _ h1 _ => by unfold rem; rw [h1]
  call := fun f e s s1 v ok hi ho =>
    have hadv := (adv h.plain h.closed f e s hi).done ho
    have hfr := (parseExpr_frame E f e s hi.1).done ho
    have hle := AdvTo.le hadv hfr.failOff
    ⟨hi.of_framed hfr, hadv, hfr.failOff, rem_le hle, off_eq_of_rem (hi.of_framed hfr) hle⟩
  shape := h.shape
  ranked := fun n r hf m hm => Or.inr (h.ranked n r hf m hm)
  plainRule := fun n r hf _ _ k s => ruleWrap_eq h.plain k n r hf s
  leadRule := fun _ _ _ _ hl => hl.elim

/-- **Well-formed grammars terminate**: every well-shaped expression, from every state, at some finite depth. -/
theorem wf_terminates (h : WFG E rn rank) (e : Expr) (s : PState) (hi : FInv E s) (hwf : e.wfs rn = true) :
    ∃ f, parseExpr E f e s ≠ .oof :=
  terminates_gen (plain_rctx h) e s hi hwf

/-- ... and so does `Parse`: at some finite depth the model returns (a value, errors, or a panic) -/
theorem wf_parse_terminates (h : WFG E rn rank) : ∃ f, parse E f ≠ .oof :=
  parse_gen (plain_rctx h) (start_inv E)

end

/-! ### a checker for the hypotheses (executable; its verdict `true` is proved sound) -/

/-- the oracle given by a list of nullable rule names -/
def rnOf (l : List String) : String → Bool := fun n => l.contains n
/-- the ranking given by an association list (absent = 0) -/
def rankOf (l : List (String × Nat)) : String → Nat := fun n => (lookup n l).getD 0

/-- does the candidate (nullable rules, ranking) witness that the grammar is well-formed? (every rule definition is
    checked, shadowed ones too: stronger than needed) -/
def checkWFG (E : Env) (nl : List String) (rk : List (String × Nat)) : Bool :=
  !E.opts.memoize && E.opts.maxExpr.isNone &&
  E.rules.all (fun r =>
    !r.leftRecursive && !r.leader &&
    (!r.expr.nul (rnOf nl) || rnOf nl r.name) &&
    r.expr.wfs (rnOf nl) &&
    (r.expr.first (rnOf nl)).all (fun m => decide (rankOf rk m < rankOf rk r.name)))

theorem checkWFG_sound {E : Env} {nl : List String} {rk : List (String × Nat)} (hc : checkWFG E nl rk = true) :
    WFG E (rnOf nl) (rankOf rk) := by
  unfold checkWFG at hc
  simp only [Bool.and_eq_true, Bool.not_eq_true', List.all_eq_true, Bool.or_eq_true, decide_eq_true_eq,
    Option.isNone_iff_eq_none] at hc
  obtain ⟨⟨hm, hb⟩, hall⟩ := hc
  exact ⟨⟨hm, hb, forall_findRule fun r hr => (hall r hr).1.1.1⟩,
    forall_findRule fun r hr hn => (hall r hr).1.1.2.resolve_left (by rw [hn]; exact Bool.noConfusion),
    forall_findRule fun r hr => (hall r hr).1.2, forall_findRule fun r hr => (hall r hr).2⟩

/-- `checkWFG` as a function of the rule list alone -/
def checkRulesWF (rules : List Rule) (nl : List String) (rk : List (String × Nat)) : Bool :=
  rules.all (fun r =>
    !r.leftRecursive && !r.leader &&
    (!r.expr.nul (rnOf nl) || rnOf nl r.name) &&
    r.expr.wfs (rnOf nl) &&
    (r.expr.first (rnOf nl)).all (fun m => decide (rankOf rk m < rankOf rk r.name)))

theorem checkWFG_of_rules {E : Env} {rules : List Rule} {nl : List String} {rk : List (String × Nat)}
    (hr : E.rules = rules) (hm : E.opts.memoize = false) (hb : E.opts.maxExpr = none)
    (h : checkRulesWF rules nl rk = true) : checkWFG E nl rk = true := by
  subst hr
  unfold checkWFG
  unfold checkRulesWF at h
  simp only [hm, hb, Bool.not_false, Option.isNone_none, Bool.true_and]
  exact h

end RT
end PV
