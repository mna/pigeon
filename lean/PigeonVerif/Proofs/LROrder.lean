/-
  LROrder — `ComputeLeftRecursives` is a function of the first graph AS A SET (C19).

  The Go function ranges over the keys of the first graph (a map) to list the vertices, Tarjan's algorithm
  then finds the components in an order that depends on that list and on the order of every successor map, and
  `findLeader` ranges over maps again.  In the model the loop is `verts.foldl (lrStep g)`.  This file gives the
  loop a closed form — every rule whose name lies in a handled component carries `markOf g rule`, the verdict is
  `verdictFor g handled` — and concludes that two enumerations of the same vertex set over two adjacency structures
  with the same successor sets give the same marks and the same verdict.
-/
import PigeonVerif.Proofs.LeaderOrder

namespace PV
namespace Mid

/-- what `ComputeLeftRecursives` leaves on a rule whose component was handled (`r.leader || …`: `lrStep` only ever
    sets the flag, it never clears one) -/
def markOf (g : Graph) (r : ARule) : ARule :=
  if (sccOf g r.name).length > 1 then
    { r with leftRecursive := true, leader := r.leader || (findLeader g (sccOf g r.name) == some r.name) }
  else if hasSelfLoop g r.name then { r with leftRecursive := true, leader := true }
  else r

@[simp] theorem markOf_name (g : Graph) (r : ARule) : (markOf g r).name = r.name := by
  unfold markOf; split <;> (try split) <;> rfl

def bigNoLeader (g : Graph) (x : String) : Bool :=
  decide ((sccOf g x).length > 1) && (findLeader g (sccOf g x)).isNone
def isLR (g : Graph) (x : String) : Bool := decide ((sccOf g x).length > 1) || hasSelfLoop g x

def verdictFor (g : Graph) (done : List String) : Verdict :=
  if done.any (bigNoLeader g) then .noLeader else .ok (done.any (isLR g))

theorem foldl_updateRule (f : ARule → ARule) (hf : ∀ r, f (f r) = f r) (hn : ∀ r, (f r).name = r.name) (l : List String) :
    ∀ G : AGrammar, l.foldl (fun G n => updateRule G n f) G = G.map (fun r => if l.contains r.name then f r else r) := by
  induction l with
  | nil => intro G; simp
  | cons n l ih =>
    intro G
    rw [List.foldl_cons, ih, updateRule_eq_map, List.map_map]
    apply List.map_congr_left
    intro r _
    simp only [Function.comp, List.contains_cons]
    by_cases h1 : r.name = n
    · rw [if_pos h1, hn, hf, ite_self, h1, beq_self_eq_true, Bool.true_or, if_pos rfl]
    · rw [if_neg h1, beq_false_of_ne h1, Bool.false_or]

structure LInv (g : Graph) (G0 : AGrammar) (st : AGrammar × Verdict × List String) : Prop where
  closed : ∀ x ∈ st.2.2, ∀ y, y ∈ sccOf g x → y ∈ st.2.2
  gram : st.1 = G0.map (fun r => if st.2.2.contains r.name then markOf g r else r)
  verd : st.2.1 = verdictFor g st.2.2

/-- what handling one more component does to the verdict -/
def vjoin (g : Graph) (scc : List String) (vd : Verdict) : Verdict :=
  if scc.any (bigNoLeader g) then .noLeader else
    match vd with
    | .noLeader => .noLeader
    | .ok b => .ok (scc.any (isLR g) || b)

theorem verdictFor_union (g : Graph) (done scc : List String) :
    verdictFor g (union done scc) = vjoin g scc (verdictFor g done) := by
  unfold verdictFor vjoin
  rw [any_union, any_union, Bool.or_comm (done.any (isLR g))]
  cases done.any (bigNoLeader g) <;> cases scc.any (bigNoLeader g) <;> rfl

theorem bigNoLeader_of_mem (g : Graph) (hg : GraphOK g) {v x : String} (h : x ∈ sccOf g v) :
    bigNoLeader g x = bigNoLeader g v := by
  unfold bigNoLeader; rw [scc_length_of_mem g hg h, findLeader_of_mem g hg h]

theorem markOf_of_big {g : Graph} (hg : GraphOK g) {v : String} {r : ARule} (hm : r.name ∈ sccOf g v)
    (hbig : (sccOf g v).length > 1) :
    markOf g r = { r with leftRecursive := true, leader := r.leader || (findLeader g (sccOf g v) == some r.name) } := by
  unfold markOf
  rw [if_pos (by rw [scc_length_of_mem g hg hm]; exact hbig), findLeader_of_mem g hg hm]

theorem lrStep_fresh (g : Graph) (hg : GraphOK g) (G : AGrammar) (vd : Verdict) (done : List String) (v : String)
    (hdone : ¬ done.contains v = true) :
    lrStep g (G, vd, done) v =
      (G.map (fun r => if (sccOf g v).contains r.name then markOf g r else r), vjoin g (sccOf g v) vd,
        union done (sccOf g v)) := by
  have hvs : v ∈ sccOf g v := self_mem_sccOf g v
  unfold lrStep vjoin
  dsimp only
  rw [if_neg hdone]
  by_cases hbig : (sccOf g v).length > 1
  · rw [if_pos hbig, foldl_updateRule (fun r => { r with leftRecursive := true }) (fun _ => rfl) (fun _ => rfl)]
    have hlr : (sccOf g v).any (isLR g) = true := List.any_eq_true.mpr ⟨v, hvs, by simp [isLR, hbig]⟩
    have hnl : (sccOf g v).any (bigNoLeader g) = (findLeader g (sccOf g v)).isNone :=
      any_const hvs (fun x hx => by rw [bigNoLeader_of_mem g hg hx]; simp [bigNoLeader, hbig])
    rw [hnl, hlr]
    cases hl : findLeader g (sccOf g v) with
    | none =>
      refine congrArg (·, _) (List.map_congr_left fun r _ => ?_)
      by_cases hm : (sccOf g v).contains r.name = true
      · rw [if_pos hm, if_pos hm, markOf_of_big hg (by simpa using hm) hbig, hl]; simp
      · rw [if_neg hm, if_neg hm]
    | some l =>
      have hlm : (sccOf g v).contains l = true := by simpa using findLeader_mem hl
      refine congr (congrArg Prod.mk ?_) (congrArg (·, _) ?_)
      · rw [updateRule_eq_map, List.map_map]
        refine List.map_congr_left fun r _ => ?_
        simp only [Function.comp]
        by_cases hm : (sccOf g v).contains r.name = true
        · rw [if_pos hm, if_pos hm, markOf_of_big hg (by simpa using hm) hbig, hl]
          by_cases he : r.name = l
          · rw [if_pos he, he, beq_self_eq_true, Bool.or_true]
          · rw [if_neg he, beq_false_of_ne fun h => he (Option.some.inj h).symm, Bool.or_false]
        · rw [if_neg hm, if_neg hm, if_neg (fun (he : r.name = l) => hm (he ▸ hlm))]
      · cases vd <;> rfl
  · rw [if_neg hbig]
    have hone : sccOf g v = [v] := scc_small g v hbig
    have hmk : ∀ r : ARule, r.name = v → markOf g r =
        if hasSelfLoop g v then { r with leftRecursive := true, leader := true } else r := fun r he => by
      unfold markOf; rw [he, if_neg hbig]
    have hnl : (sccOf g v).any (bigNoLeader g) = false := by rw [hone]; simp [bigNoLeader, hbig]
    have hlr : (sccOf g v).any (isLR g) = hasSelfLoop g v := by rw [hone]; simp [isLR, hbig]
    rw [hnl, hlr, hone]
    have hG : ∀ f : ARule → ARule, (∀ r : ARule, r.name = v → markOf g r = f r) →
        updateRule G v f = G.map (fun r => if [v].contains r.name then markOf g r else r) := fun f hf => by
      rw [updateRule_eq_map]
      refine List.map_congr_left fun r _ => ?_
      by_cases he : r.name = v
      · rw [if_pos he, if_pos (by simp [he]), hf r he]
      · rw [if_neg he, if_neg (by simpa using he)]
    by_cases hself : hasSelfLoop g v = true
    · rw [if_pos hself, hG _ (fun r he => by rw [hmk r he, if_pos hself]), hself]
      cases vd <;> rfl
    · rw [if_neg hself, ← hG id (fun r he => by rw [hmk r he, if_neg hself]; rfl),
        show updateRule G v id = G from (List.map_congr_left fun r _ => ite_self r).trans (List.map_id G),
        Bool.eq_false_iff.mpr hself]
      cases vd <;> rfl

theorem lrStep_inv (g : Graph) (hg : GraphOK g) (G0 : AGrammar) (st : AGrammar × Verdict × List String) (v : String)
    (hi : LInv g G0 st) :
    LInv g G0 (lrStep g st v) ∧ ∀ x, x ∈ (lrStep g st v).2.2 ↔ (x ∈ st.2.2 ∨ x ∈ sccOf g v) := by
  obtain ⟨G, verdict, done⟩ := st
  obtain ⟨hcl, hgr, hvd⟩ := hi
  dsimp only at hcl hgr hvd
  by_cases hdone : done.contains v = true
  · have : lrStep g (G, verdict, done) v = (G, verdict, done) := by unfold lrStep; exact if_pos hdone
    rw [this]
    refine ⟨⟨hcl, hgr, hvd⟩, fun x => ⟨Or.inl, ?_⟩⟩
    rintro (h | h)
    · exact h
    · exact hcl v (by simpa using hdone) x h
  · rw [lrStep_fresh g hg G verdict done v hdone]
    have hvnd : v ∉ done := by simpa using hdone
    -- reduce the projections of the new state first: the unifier otherwise unfolds `verdictFor`, `sccOf` under them
    refine ⟨⟨?_, ?_, ?_⟩, ?_⟩ <;> dsimp only
    · intro x hx y hy
      rcases (mem_union x _ _).mp hx with hx | hx
      · exact (mem_union y _ _).mpr (Or.inl (hcl x hx y hy))
      · exact (mem_union y _ _).mpr (Or.inr ((scc_sameMem_of_mem g hg hx y).mp hy))
    · -- the new component is disjoint from what was handled
      rw [hgr, List.map_map]
      refine List.map_congr_left fun r _ => ?_
      simp only [Function.comp]
      rw [contains_union]
      by_cases hd : done.contains r.name = true
      · have hns : ¬ (sccOf g v).contains r.name = true := fun hc =>
          hvnd (hcl _ (by simpa using hd) v
            ((mem_sccOf_iff g hg _ v).mpr ((mem_sccOf_iff g hg v _).mp (by simpa using hc)).symm))
        rw [if_pos hd, markOf_name, if_neg hns, hd, Bool.true_or, if_pos rfl]
      · rw [if_neg hd, Bool.eq_false_iff.mpr hd, Bool.false_or]
    · rw [verdictFor_union, hvd]
    · exact fun x => mem_union x _ _

theorem fold_inv (g : Graph) (hg : GraphOK g) (G0 : AGrammar) (verts : List String) :
    ∀ st : AGrammar × Verdict × List String, LInv g G0 st →
      LInv g G0 (verts.foldl (lrStep g) st) ∧
      ∀ x, x ∈ (verts.foldl (lrStep g) st).2.2 ↔ (x ∈ st.2.2 ∨ ∃ v ∈ verts, x ∈ sccOf g v) := by
  induction verts with
  | nil => exact fun st hi => ⟨hi, fun x => by simp⟩
  | cons v vs ih =>
    intro st hi
    obtain ⟨h1, h2⟩ := lrStep_inv g hg G0 st v hi
    obtain ⟨h3, h4⟩ := ih _ h1
    refine ⟨h3, fun x => ?_⟩
    rw [List.foldl_cons, h4, h2]
    simp only [List.mem_cons, exists_eq_or_imp, or_assoc]

theorem init_inv (g : Graph) (G0 : AGrammar) : LInv g G0 (G0, .ok false, []) :=
  ⟨fun _ h => (by cases h), (by simp), (by simp [verdictFor])⟩

/-- the components handled by the loop: those of the listed vertices -/
def Handled (g : Graph) (verts : List String) (x : String) : Prop := ∃ v ∈ verts, x ∈ sccOf g v

theorem computeLRWith_closed_form (g : Graph) (hg : GraphOK g) (verts : List String) (G0 : AGrammar) :
    ∃ done : List String, (∀ x, x ∈ done ↔ Handled g verts x) ∧
      computeLRWith g verts G0 =
        (G0.map (fun r => if done.contains r.name then markOf g r else r), verdictFor g done) := by
  obtain ⟨hi, hm⟩ := fold_inv g hg G0 verts _ (init_inv g G0)
  refine ⟨(verts.foldl (lrStep g) (G0, .ok false, [])).2.2, fun x => ?_, ?_⟩
  · rw [hm]; simp [Handled]
  · unfold computeLRWith
    dsimp only
    rw [← hi.gram, ← hi.verd]

theorem markOf_sameSuccs {g1 g2 : Graph} (h1 : GraphOK g1) (h2 : GraphOK g2) (hg : SameSuccs g1 g2) (r : ARule) :
    markOf g1 r = markOf g2 r := by
  unfold markOf
  rw [sccOf_length h1 h2 hg, leader_of_vertex_order_free h1 h2 hg, hasSelfLoop_sameSuccs hg]

/-- **`ComputeLeftRecursives` does not depend on any iteration order.**  Two enumerations of the same vertices,
    over two adjacency structures with the same successor sets, leave the same marks on every rule and give the
    same verdict (no left recursion / left recursion / a component without a leader). -/
theorem computeLRWith_order_free {g1 g2 : Graph} (h1 : GraphOK g1) (h2 : GraphOK g2) (hg : SameSuccs g1 g2)
    {verts1 verts2 : List String} (hv : SameMem verts1 verts2) (G0 : AGrammar) :
    computeLRWith g1 verts1 G0 = computeLRWith g2 verts2 G0 := by
  obtain ⟨d1, hd1, e1⟩ := computeLRWith_closed_form g1 h1 verts1 G0
  obtain ⟨d2, hd2, e2⟩ := computeLRWith_closed_form g2 h2 verts2 G0
  have hd : SameMem d1 d2 := fun x => by
    simp only [hd1, hd2, Handled, hv _, sccOf_sameMem h1 h2 hg _ x]
  rw [e1, e2]
  congr 1
  · apply List.map_congr_left
    intro r _
    rw [contains_sameMem hd, markOf_sameSuccs h1 h2 hg]
  · unfold verdictFor
    rw [any_sameMem hd (bigNoLeader g1) (bigNoLeader g2), any_sameMem hd (isLR g1) (isLR g2)]
    · intro x; unfold isLR; rw [sccOf_length h1 h2 hg, hasSelfLoop_sameSuccs hg]
    · intro x; unfold bigNoLeader; rw [sccOf_length h1 h2 hg, leader_of_vertex_order_free h1 h2 hg]

end Mid
end PV
