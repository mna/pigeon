/-
  One traversal of the interpreter for every state invariant that its primitive operations keep.
-/
import PigeonVerif.Proofs.Frame

namespace PV

namespace RT

/-- `I` survives every write the interpreter makes: the first group are plain field writes (any value), the second the
    operations whose effect matters. A panic is raised in a state that satisfies `I`, or by the memo hit that exceeds
    the budget; such a state need only satisfy `Ip`. -/
structure Kept (E : Env) (I Ip : PState → Prop) : Prop where
  pt : ∀ s p, I s → I { s with pt := p }
  state : ∀ s st, I s → I { s with state := st }
  vstack : ∀ s vs, I s → I { s with vstack := vs }
  rstack : ∀ s rs, I s → I { s with rstack := rs }
  recov : ∀ s fs, I s → I { s with recoveryStack := fs }
  invert : ∀ s b, I s → I { s with maxFailInvert := b }
  memo : ∀ s m, I s → I { s with memo := m }
  errs : ∀ s l, I s → I { s with errs := l }
  choiceCnt : ∀ s c, I s → I { s with choiceCnt := c }
  cur : ∀ s (start : Savepoint), I s → I { s with curPos := start.pos, curText := sliceFrom E s start }
  failAt : ∀ s b p w, I s → I (RT.failAt s b p w)
  callBlock : ∀ s blk, I s → I (RT.callBlock E blk s).2
  bump : ∀ s, I s → I (RT.bump s)
  /-- a memo hit (so the parser memoizes) that stays within the budget -/
  hit : ∀ s, I s → E.memoize = true → ¬ hitsOverBudget E (RT.hit s) = true → I (RT.hit s)
  panicHit : ∀ s, I s → Ip (RT.hit s)
  panic : ∀ s, I s → Ip s

namespace Kept

variable {E : Env} {I Ip : PState → Prop} (K : Kept E I Ip)
include K

theorem pushV {s} (h : I s) : I (pushV s) := K.vstack s _ h
theorem popV {s} (h : I s) : I (popV s) := K.vstack s _ h
theorem pushRecovery {s} (h : I s) (l r) : I (pushRecovery s l r) := K.recov s _ h
theorem popRecovery {s} (h : I s) : I (popRecovery s) := K.recov s _ h
theorem setLabel {s} (h : I s) (l v) : I (setLabel s l v) := setLabel_writes .. ▸ K.vstack s _ h
theorem addErrAt {s} (h : I s) (m p) : I (addErrAt E s m p) := K.errs s _ h
theorem addErrAtOpt {s} (h : I s) (o p) : I (addErrAtOpt E s o p) := addErrAtOpt_writes .. ▸ K.errs s _ h
theorem read {s} (h : I s) : I (read E s) := read_writes .. ▸ K.errs _ _ (K.pt s _ h)
theorem restore {s} (h : I s) (p) : I (restore s p) := restore_writes .. ▸ K.pt s _ h
theorem restoreState {s} (h : I s) (st) : I (restoreState E s st) := restoreState_writes .. ▸ K.state s _ h
theorem setMemoized {s} (h : I s) (p k t) : I (setMemoized s p k t) := K.memo s _ h
theorem incChoiceAlt {s} (h : I s) (l c a) : I (incChoiceAlt s l c a) := K.choiceCnt s _ h

/-- what holds of an outcome reached from a state satisfying `I` -/
abbrev Post (_K : Kept E I Ip) (o : Outcome) : Prop := o.Sat (fun _ _ s' => I s') Ip

theorem lit (start : Savepoint) (want : String) (ic : Bool) (rs : List Rune) (s : PState) (h : I s) :
    K.Post (parseLit E start want ic rs s) := by
  induction rs generalizing s with
  | nil => exact K.failAt s _ _ _ h
  | cons r rs ih =>
    rw [parseLit_cons]
    split
    · exact K.restore (K.failAt s _ _ _ h) _
    · exact ih _ (K.read h)

theorem runCodeBlock (blk : Nat) (s : PState) (h : I s) (k : BlockResult → PState → Outcome)
    (hk : ∀ r s2, I s2 → K.Post (k r s2)) : K.Post (runCodeBlock E blk s k) :=
  runCodeBlock_cases (Q := K.Post) (fun _ _ => K.panic _ (K.callBlock s blk h)) fun _ =>
    hk _ _ (K.addErrAtOpt (K.callBlock s blk h) _ _)

theorem matchOne (s : PState) (want : String) (h : I s) : K.Post (matchOne E s want) :=
  K.failAt _ _ _ _ (K.read h)

section
variable {rec : Expr → PState → Outcome} (hrec : ∀ e s, I s → K.Post (rec e s))
include hrec

theorem wrap (e : Expr) (s : PState) (h : I s) : K.Post (parseExprWrap E rec e s) :=
  parseExprWrap_cases (hrec e s h)
    (fun _ hm _ => iteInduction (motive := K.Post) (fun _ => K.panicHit s h)
      (fun hb => K.restore (K.hit s h hm hb) _))
    ((hrec e s h).bind fun v ok s1 h1 => K.setMemoized h1 _ _ _)

theorem seq (pt : Savepoint) (st : Store) (es : List Expr) (s : PState) (acc : List Val) (h : I s) :
    K.Post (parseSeq E rec pt st es s acc) := by
  induction es generalizing s acc with
  | nil => exact h
  | cons e es ih =>
    rw [parseSeq_cons]
    refine (K.wrap hrec e s h).bind fun v ok s1 h1 => ?_
    cases ok with
    | true => exact ih s1 _ h1
    | false => exact K.restore (K.restoreState h1 _) _

theorem choice (line col : Nat) (alts : List Expr) (i : Nat) (s : PState) (h : I s) :
    K.Post (parseChoice E rec line col alts i s) := by
  induction alts generalizing i s with
  | nil => exact K.incChoiceAlt h _ _ _
  | cons a alts ih =>
    rw [parseChoice_cons]
    refine (K.wrap hrec a _ (K.pushV h)).bind fun v ok s1 h1 => ?_
    cases ok with
    | true => exact K.incChoiceAlt (K.popV h1) _ _ _
    | false => exact ih _ _ (K.restoreState (K.popV h1) _)

theorem loop (e : Expr) (k : Nat) (s : PState) (acc : List Val) (h : I s) : K.Post (parseLoop E rec e k s acc) := by
  induction k generalizing s acc with
  | zero => trivial
  | succ k ih =>
    rw [parseLoop_succ]
    refine (K.wrap hrec e _ (K.pushV h)).bind fun v ok s1 h1 => ?_
    cases ok with
    | true => exact ih _ _ (K.popV h1)
    | false => exact iteInduction (motive := K.Post) nofun fun _ => iteInduction (motive := K.Post) (fun _ => K.popV h1) (fun _ => K.popV h1)

theorem throw (label : String) (frames : List (List (String × Expr))) (s : PState) (h : I s) :
    K.Post (parseThrow E rec label frames s) := by
  induction frames generalizing s with
  | nil => exact h
  | cons fr frs ih =>
    rw [parseThrow_cons]
    split
    · refine (K.wrap hrec _ s h).bind fun v ok s1 h1 => ?_
      cases ok with
      | true => exact h1
      | false => exact ih s1 h1
    · exact ih s h

theorem rule (r : Rule) (s : PState) (h : I s) : K.Post (parseRule E rec r s) := by
  unfold parseRule
  refine (K.wrap hrec r.expr _ (K.pushV (K.rstack s _ h))).bind fun v ok s1 h1 => ?_
  exact K.rstack _ _ (K.popV h1)

theorem ruleMemoize (r : Rule) (s : PState) (h : I s) : K.Post (parseRuleMemoize E rec r s) := by
  unfold parseRuleMemoize
  split
  · exact K.restore h _
  · exact (K.rule hrec r s h).bind fun v ok s1 h1 => K.setMemoized h1 _ _ _

theorem leaderLoop (r : Rule) (startMark : Savepoint) (k depth : Nat) (last : MemoVal) (lastErrs : List String)
    (s : PState) (h : I s) : K.Post (leaderLoop E rec r startMark k depth last lastErrs s) := by
  induction k generalizing depth last lastErrs s with
  | zero => trivial
  | succ k ih =>
    rw [leaderLoop_succ]
    exact (K.rule hrec r _ (K.setMemoized h _ _ _)).bind fun v ok s2 h2 => iteInduction (motive := K.Post)
      (fun _ => K.setMemoized (K.restore (K.errs _ _ (K.restoreState h2 _)) _) _ _ _)
      (fun _ => ih _ _ _ _ (K.restore h2 _))

theorem ruleLeader (k : Nat) (r : Rule) (s : PState) (h : I s) : K.Post (parseRuleLeader E rec k r s) := by
  unfold parseRuleLeader
  split
  · exact K.restore h _
  · exact K.leaderLoop hrec r _ k 0 _ _ s h

theorem ruleWrap (k : Nat) (r : Rule) (s : PState) (h : I s) : K.Post (parseRuleWrap E rec k r s) := by
  exact parseRuleWrap_of (fun _ => K.ruleLeader hrec k r s h) (fun _ => K.ruleMemoize hrec r s h) (fun _ => K.rule hrec r s h)

theorem body (k : Nat) (e : Expr) (s : PState) (h : I s) : K.Post (parseExprBody E rec k e s) := by
  have hw := K.wrap hrec
  cases e with
  | action id blk e1 =>
    dsimp only [parseExprBody, parseAction]
    refine (hw e1 s h).bind fun v ok s1 h1 => ?_
    cases ok with
    | true =>
      simp only [if_true]
      have h2 := K.cur s1 s.pt h1
      split
      · exact K.panic _ (K.callBlock _ blk h2)
      · exact K.restoreState (K.addErrAtOpt (K.callBlock _ blk h2) _ _) _
    | false => exact h1
  | andCode id blk => exact K.runCodeBlock blk s h (fun r s2 => .done .nil r.retB (RT.restoreState E s2 s.state)) fun r s2 h2 => K.restoreState h2 _
  | notCode id blk => exact K.runCodeBlock blk s h (fun r s2 => .done .nil (!r.retB) (RT.restoreState E s2 s.state)) fun r s2 h2 => K.restoreState h2 _
  | stateCode id blk =>
    exact iteInduction (motive := K.Post) (fun _ => K.panic s h) (fun _ => K.runCodeBlock blk s h _ fun r s2 h2 => h2)
  | and id e1 =>
    exact (hw e1 _ (K.pushV h)).bind fun v ok s1 h1 => K.restore (K.restoreState (K.popV h1) _) _
  | not id e1 =>
    exact (hw e1 _ (K.invert _ _ (K.pushV h))).bind fun v ok s1 h1 =>
      K.restore (K.restoreState (K.popV (K.invert _ _ h1)) _) _
  | any id => exact parseAny_cases (K.failAt s _ _ _ h) (fun _ => K.matchOne s _ h)
  | cls id c => exact parseCharClass_cases (K.failAt s _ _ _ h) (fun _ => K.matchOne s _ h)
  | choice id line col alts => exact K.choice hrec line col alts 0 s h
  | labeled id l e1 =>
    exact (hw e1 _ (K.pushV h)).bind fun v ok s1 h1 =>
      iteInduction (motive := I) (fun _ => K.setLabel (K.popV h1) _ _) (fun _ => K.popV h1)
  | lit id val ic want => exact K.lit _ _ _ _ _ h
  | oneOrMore id e1 => exact K.loop hrec e1 k s [] h
  | zeroOrMore id e1 =>
    exact (K.loop hrec e1 k s [] h).bind fun v ok s1 h1 => iteInduction (motive := K.Post) (fun _ => h1) (fun _ => h1)
  | zeroOrOne id e1 => exact (hw e1 _ (K.pushV h)).bind fun v ok s1 h1 => K.popV h1
  | recovery id e1 r labels =>
    exact (hw e1 _ (K.pushRecovery h labels r)).bind fun v ok s1 h1 => K.popRecovery h1
  | ruleRef id name =>
    exact parseRuleRef_cases (K.panic s h) (K.addErrAt h _ _) fun r _ => K.ruleWrap hrec k r s h
  | seq id es => exact K.seq hrec _ _ es s [] h
  | throw id label => exact K.throw hrec label _ s h

end

/-- **an invariant the primitive operations keep holds of every outcome**, in every configuration -/
theorem parseExpr (f : Nat) (e : Expr) (s : PState) (h : I s) : K.Post (parseExpr E f e s) := by
  induction f generalizing e s with
  | zero => trivial
  | succ f ih =>
    exact iteInduction (motive := K.Post) (fun _ => K.panic _ (K.bump s h))
      (fun _ => K.body ih f e _ (K.bump s h))

end Kept
end RT
end PV
