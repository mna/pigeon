/-
  The UTF-8 decoder of the model against Unicode Table 3-7 (`wellFormed`): `decodeRune_sound`, lead byte by lead byte, and
  what the positions of the reader need of it (`Utf8Sound.width_pos`, `decodeRune_le`). C17 itself: `Properties/C17.lean`.
-/
import PigeonVerif.Model.Basic

namespace PV

/-- Well-formed UTF-8 byte sequences, Unicode Table 3-7 / RFC 3629 (independent of the decoder). -/
def wellFormed : List Nat → Bool
  | [b0] => b0 < 0x80
  | [b0, b1] => 0xC2 ≤ b0 && b0 ≤ 0xDF && isCont b1
  | [b0, b1, b2] =>
    ((b0 == 0xE0 && 0xA0 ≤ b1 && b1 ≤ 0xBF) || (0xE1 ≤ b0 && b0 ≤ 0xEC && isCont b1)
      || (b0 == 0xED && 0x80 ≤ b1 && b1 ≤ 0x9F) || (0xEE ≤ b0 && b0 ≤ 0xEF && isCont b1)) && isCont b2
  | [b0, b1, b2, b3] =>
    ((b0 == 0xF0 && 0x90 ≤ b1 && b1 ≤ 0xBF) || (0xF1 ≤ b0 && b0 ≤ 0xF3 && isCont b1)
      || (b0 == 0xF4 && 0x80 ≤ b1 && b1 ≤ 0x8F)) && isCont b2 && isCont b3
  | _ => false

theorem isCont_iff {b : Nat} : isCont b = true ↔ 0x80 ≤ b ∧ b ≤ 0xBF := by simp [isCont]

/-- What the decoder may answer on the non-empty input `bs`: the one-byte error rune, or a width whose bytes are a
    well-formed sequence. -/
def Utf8Sound (bs : List Nat) (d : Rune × Nat) : Prop :=
  d = (runeError, 1) ∨ (wellFormed (bs.take d.2) = true ∧ d.2 ≤ bs.length)

theorem Utf8Sound.width_pos {bs : List Nat} {d : Rune × Nat} (h : Utf8Sound bs d) : 1 ≤ d.2 := by
  rcases h with rfl | ⟨h, _⟩
  · exact Nat.le_refl 1
  · cases hd : d.2 with
    | zero => rw [hd] at h; cases h
    | succ n => exact Nat.succ_pos n

/-! One row of Table 3-7 each: the decoder's test on the trailing bytes, with the lead byte and the bounds of the second
    byte as variables; `hrow` is what the table says for the lead byte at hand. -/

theorem dec2_sound (p0 : Nat) (rest : List Nat) (hrow : ∀ b1, isCont b1 = true → wellFormed [p0, b1] = true) :
    Utf8Sound (p0 :: rest) (dec2 p0 rest) := by
  unfold dec2
  split
  · exact iteInduction (fun h => .inr ⟨hrow _ h, Nat.le_add_left ..⟩) fun _ => .inl rfl
  · exact .inl rfl

theorem dec3_sound (p0 lo hi : Nat) (rest : List Nat)
    (hrow : ∀ b1 b2, (lo ≤ b1 ∧ b1 ≤ hi) ∧ isCont b2 = true → wellFormed [p0, b1, b2] = true) :
    Utf8Sound (p0 :: rest) (dec3 p0 lo hi rest) := by
  unfold dec3
  split
  · refine iteInduction (fun h => ?_) fun _ => .inl rfl
    simp only [Bool.and_eq_true, decide_eq_true_eq] at h
    exact .inr ⟨hrow _ _ h, Nat.le_add_left ..⟩
  · exact .inl rfl

theorem dec4_sound (p0 lo hi : Nat) (rest : List Nat)
    (hrow : ∀ b1 b2 b3, ((lo ≤ b1 ∧ b1 ≤ hi) ∧ isCont b2 = true) ∧ isCont b3 = true → wellFormed [p0, b1, b2, b3] = true) :
    Utf8Sound (p0 :: rest) (dec4 p0 lo hi rest) := by
  unfold dec4
  split
  · refine iteInduction (fun h => ?_) fun _ => .inl rfl
    simp only [Bool.and_eq_true, decide_eq_true_eq] at h
    exact .inr ⟨hrow _ _ _ h, Nat.le_add_left ..⟩
  · exact .inl rfl

theorem decodeRune_ascii {p0 : Nat} (rest : List Nat) (h : p0 < 0x80) : decodeRune (p0 :: rest) = (p0, 1) := by
  rw [decodeRune, if_pos h]

/-- The decoder against Table 3-7, lead byte by lead byte. (Not by `split` on the whole chain: it
    simplifies all the remaining branches at every step.) -/
theorem decodeRune_sound (p0 : Nat) (rest : List Nat) : Utf8Sound (p0 :: rest) (decodeRune (p0 :: rest)) := by
  rw [decodeRune]
  refine iteInduction (fun h => .inr ⟨by simp only [wellFormed, h, decide_true, List.take], by simp⟩) fun h80 => ?_
  refine iteInduction (fun _ => .inl rfl) fun hC2 => ?_
  refine iteInduction (fun h => dec2_sound _ _ fun b1 hc => by
    simp only [wellFormed, hc, Nat.le_of_not_lt hC2, Nat.le_of_lt_succ h, decide_true]; rfl) fun hE0 => ?_
  refine iteInduction (fun h => dec3_sound _ _ _ _ fun b1 b2 hb => by simp only [wellFormed, h, hb, decide_true]; rfl) fun hE0' => ?_
  refine iteInduction (fun h => dec3_sound _ _ _ _ fun b1 b2 hb => by simp only [wellFormed, h, hb, decide_true]; rfl) fun hED => ?_
  refine iteInduction (fun h => ?_) fun hF0 => ?_
  · have : 0xE1 ≤ p0 ∧ p0 ≤ 0xEC ∨ 0xEE ≤ p0 ∧ p0 ≤ 0xEF :=
      if hEC : p0 ≤ 0xEC then .inl ⟨Nat.lt_of_le_of_ne (Nat.le_of_not_lt hE0) (Ne.symm hE0'), hEC⟩
      else .inr ⟨Nat.lt_of_le_of_ne (Nat.not_le.1 hEC) (Ne.symm hED), Nat.le_of_lt_succ h⟩
    exact dec3_sound _ _ _ _ fun b1 b2 hb => by
      rcases this with h | h <;>
        simp only [wellFormed, hb, isCont_iff.mpr hb.1, h, decide_true, Bool.and_true, Bool.or_true, Bool.true_or]
  refine iteInduction (fun h => dec4_sound _ _ _ _ fun b1 b2 b3 hb => by simp only [wellFormed, h, hb, decide_true]; rfl) fun hF0' => ?_
  refine iteInduction (fun h => ?_) fun hF4 => ?_
  · have : 0xF1 ≤ p0 ∧ p0 ≤ 0xF3 := ⟨Nat.lt_of_le_of_ne (Nat.le_of_not_lt hF0) (Ne.symm hF0'), Nat.le_of_lt_succ h⟩
    exact dec4_sound _ _ _ _ fun b1 b2 b3 hb => by
      simp only [wellFormed, hb, isCont_iff.mpr hb.1.1, this, decide_true, Bool.and_true, Bool.or_true, Bool.true_or]
  exact iteInduction (fun h => dec4_sound _ _ _ _ fun b1 b2 b3 hb => by simp only [wellFormed, h, hb, decide_true]; rfl)
    fun _ => .inl rfl

/-- the decoder reports no more bytes than there are -/
theorem decodeRune_le (bs : List Nat) : (decodeRune bs).2 ≤ bs.length := by
  cases bs with
  | nil => exact Nat.le_refl 0
  | cons p0 rest =>
    rcases decodeRune_sound p0 rest with h | ⟨_, h⟩
    · rw [h]; exact Nat.succ_pos _
    · exact h

end PV
