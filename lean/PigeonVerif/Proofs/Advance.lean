/-
  Progress and nullability.

  `Expr.nul rn e` is the static "may match without consuming" of the grammar analysis, relative to an oracle `rn` for the
  rules. `adv` (plain configuration: no Memoize, no budget, no left-recursive rules): a successful evaluation never moves
  backwards, and if it ends where it started then the expression is nullable — provided `rn` is closed (`rn n` holds
  whenever the body of rule `n` is nullable). This is the semantic soundness of the nullable analysis w.r.t. the runtime
  model, for every grammar (throw/recover included: both count as nullable), every code environment, every input and
  every depth. `AdvTo b off ok off'` is that fact between two offsets with the nullability as a Boolean: an expression
  (`Adv`), a rule (`b := rn name`), the rest of a sequence (`nulAll`) and of a choice (`nulAny`) are its instances.

  The walk through the constructs (`body_prog`) is made once, for every configuration: what it assumes is a fact about
  `parseExprWrap` (`hcall`), the invariant `J` it threads may look at the memo table and at `exprCnt`, and `C e off`
  says at which offsets a sub-expression may be called. The plain progress theorems take `C := fun _ _ => True`
  (`body_adv`, `rule_adv`); Proofs/MemoCount.lean takes "below the measure of the pending evaluation". `adv_gen` is the
  induction on the depth for the configurations with Memoize off (`adv`, `advLR`), which differ in the rule dispatcher.
-/
import PigeonVerif.Proofs.FrameProof

namespace PV

mutual
def Expr.nul (rn : String → Bool) : Expr → Bool
  | .action _ _ e => e.nul rn
  | .andCode _ _ | .notCode _ _ | .stateCode _ _ => true
  | .and _ _ | .not _ _ => true
  | .any _ => false
  | .cls _ _ => false
  | .choice _ _ _ es => nulAny rn es
  | .labeled _ _ e => e.nul rn
  | .lit _ v _ _ => v.isEmpty
  | .oneOrMore _ e => e.nul rn
  | .zeroOrMore _ _ | .zeroOrOne _ _ => true
  | .recovery _ _ _ _ | .throw _ _ => true
  | .ruleRef _ n => rn n
  | .seq _ es => nulAll rn es
def nulAny (rn : String → Bool) : List Expr → Bool
  | [] => false
  | e :: es => e.nul rn || nulAny rn es
def nulAll (rn : String → Bool) : List Expr → Bool
  | [] => true
  | e :: es => e.nul rn && nulAll rn es
end

namespace RT

/-- a success does not end before `off`, and it ends at `off` only if `b` -/
def AdvTo (b : Bool) (off : Nat) (ok : Bool) (off' : Nat) : Prop :=
  ok = true → off ≤ off' ∧ (off' = off → b = true)

/-- a successful evaluation does not move backwards; if it ends where it started the expression is nullable -/
def Adv (rn : String → Bool) (e : Expr) (s : PState) (ok : Bool) (s' : PState) : Prop :=
  ok = true → s.pt.pos.off ≤ s'.pt.pos.off ∧ (s'.pt.pos.off = s.pt.pos.off → e.nul rn = true)

namespace AdvTo
variable {b b' : Bool} {off off' off'' : Nat} {ok : Bool}

theorem fail : AdvTo b off false off' := nofun

theorem stay (hb : b = true) : AdvTo b off ok off := fun _ => ⟨Nat.le_refl _, fun _ => hb⟩

theorem of_le (h : off ≤ off') : AdvTo true off ok off' := fun _ => ⟨h, fun _ => rfl⟩

theorem of_lt (h : off < off') : AdvTo b off ok off' := fun _ => ⟨Nat.le_of_lt h, fun heq => absurd heq (Nat.ne_of_gt h)⟩

theorem mono (h : AdvTo b off ok off') (hb : b = true → b' = true) : AdvTo b' off ok off' :=
  fun hok => ⟨(h hok).1, fun heq => hb ((h hok).2 heq)⟩

/-- one success after another: the two stay only if each does -/
theorem trans (h1 : AdvTo b off true off') (h2 : AdvTo b' off' ok off'') : AdvTo (b && b') off ok off'' := fun hok =>
  have ⟨l1, n1⟩ := h1 rfl
  have ⟨l2, n2⟩ := h2 hok
  ⟨Nat.le_trans l1 l2, fun heq =>
    have e1 : off' = off := Nat.le_antisymm (heq ▸ l2) l1
    by rw [n1 e1, n2 (heq.trans e1.symm)]; rfl⟩

/-- with a failure that ends where it started, no evaluation moves backwards -/
theorem le (h : AdvTo b off ok off') (hf : ok = false → off' = off) : off ≤ off' := by
  cases ok with
  | true => exact (h rfl).1
  | false => exact Nat.le_of_eq (hf rfl).symm

theorem trans_le (h1 : AdvTo b off true off') (h2 : off' ≤ off'') : AdvTo b off ok off'' :=
  (h1.trans (of_le h2)).mono fun h => Bool.and_true b ▸ h

end AdvTo

/-- an invariant of the run that only looks at the memo table (`True` in the plain configuration; "every
    seed respects progress" with left recursion) -/
structure MemoInv (J : PState → Prop) : Prop where
  congr : ∀ (s s' : PState), s'.memo = s.memo → J s → J s'

/-- the offsets at which the items of a sequence are called -/
def CSeq (C : Expr → Nat → Prop) (rn : String → Bool) : List Expr → Nat → Prop
  | [], _ => True
  | e :: es, off => C e off ∧ ∀ off', off ≤ off' → (off' = off → e.nul rn = true) → CSeq C rn es off'

/-- the sub-expressions called by the evaluation of an expression started at `off`, with the offsets they are called at -/
def CBody (C : Expr → Nat → Prop) (rn : String → Bool) : Expr → Nat → Prop
  | .action _ _ e, off | .and _ e, off | .not _ e, off | .labeled _ _ e, off | .zeroOrOne _ e, off
  | .recovery _ e _ _, off => C e off
  | .choice _ _ _ alts, off => ∀ a ∈ alts, C a off
  | .seq _ es, off => CSeq C rn es off
  | .oneOrMore _ e, off | .zeroOrMore _ e, off => ∀ off', off ≤ off' → C e off'
  | .throw _ _, off => ∀ r, C r off
  | _, _ => True

/-- an invariant that only looks at the memo table and the evaluation counter -/
structure AcctInv (J : PState → Prop) : Prop where
  congr : ∀ (s s' : PState), s'.memo = s.memo → s'.exprCnt = s.exprCnt → J s → J s'

/-- what one sub-call gives: invariants, progress, and a failure ends where it started -/
structure CallPost (E : Env) (rn : String → Bool) (J : PState → Prop) (e : Expr) (s : PState) (ok : Bool) (s' : PState) :
    Prop where
  inv : FInv E s'
  acct : J s'
  adv : AdvTo (e.nul rn) s.pt.pos.off ok s'.pt.pos.off
  failOff : ok = false → s'.pt.pos.off = s.pt.pos.off

theorem CallPost.le {E : Env} {rn : String → Bool} {J : PState → Prop} {e : Expr} {s s' : PState} {ok : Bool}
    (h : CallPost E rn J e s ok s') : s.pt.pos.off ≤ s'.pt.pos.off :=
  h.adv.le h.failOff

/-- a literal leaves the memo table and the counter alone; on success it does not move backwards, and it stays only
    if it is empty -/
theorem lit_acct {E : Env} (start : Savepoint) (want : String) (ic : Bool) (rs : List Rune) : ∀ s : PState,
    (parseLit E start want ic rs s).Sat
      (fun _ ok s' => s'.memo = s.memo ∧ s'.exprCnt = s.exprCnt ∧ AdvTo rs.isEmpty s.pt.pos.off ok s'.pt.pos.off)
      (fun _ => True) := by
  induction rs with
  | nil => exact fun s => ⟨failAt.memo, failAt.exprCnt, by rw [failAt.pt]; exact .stay rfl⟩
  | cons r rs ih =>
    intro s
    rw [parseLit_cons]
    refine iteInduction (motive := (Outcome.Sat · _ _)) (fun _ => ⟨by simp, by simp, .fail⟩) fun hc => ?_
    have hw : 0 < s.pt.w := Nat.pos_of_ne_zero fun h0 => hc (by simp [h0])
    refine (ih (read E s)).imp fun v ok s' ⟨hm, hcnt, h⟩ => ⟨hm.trans read.memo, hcnt.trans read.exprCnt, ?_⟩
    rw [read_pt, nextPt_off] at h
    exact (AdvTo.of_lt (b := false) (Nat.lt_add_of_pos_right hw)).trans h

section
variable {E : Env} {rec : Expr → PState → Outcome} {rn : String → Bool} {J : PState → Prop} {C : Expr → Nat → Prop}
variable (hJ : AcctInv J)
  (hcall : ∀ e s, FInv E s → J s → C e s.pt.pos.off →
    (parseExprWrap E rec e s).Sat (fun _ ok s' => CallPost E rn J e s ok s') (fun _ => True))

section
include hcall

theorem throw_prog (label : String) (frames : List (List (String × Expr))) : ∀ s : PState, FInv E s → J s →
    (∀ r, C r s.pt.pos.off) →
    (parseThrow E rec label frames s).Sat (fun _ ok s' => J s' ∧ AdvTo true s.pt.pos.off ok s'.pt.pos.off) (fun _ => True) := by
  induction frames with
  | nil => exact fun s _ hj _ => ⟨hj, .fail⟩
  | cons fr frs ih =>
    intro s hi hj hc
    rw [parseThrow_cons]
    split
    · next r _ =>
      refine (hcall r s hi hj (hc r)).bind fun v ok s1 h => ?_
      cases ok with
      | true => exact ⟨h.acct, .of_le h.le⟩
      | false =>
        have hoff := h.failOff rfl
        exact (ih s1 h.inv h.acct fun r => hoff ▸ hc r).imp fun _ _ _ h' => ⟨h'.1, hoff ▸ h'.2⟩
    · exact ih s hi hj hc

end

include hJ

/-- after a call, operations that leave the position, the table and the counter alone -/
theorem CallPost.keep {e : Expr} {s s1 s' : PState} {ok : Bool} (h : CallPost E rn J e s ok s1)
    (hpt : s'.pt = s1.pt) (hm : s'.memo = s1.memo) (hc : s'.exprCnt = s1.exprCnt) :
    J s' ∧ AdvTo (e.nul rn) s.pt.pos.off ok s'.pt.pos.off :=
  ⟨hJ.congr _ _ hm hc h.acct, by rw [hpt]; exact h.adv⟩

theorem runCodeBlock_acct (blk : Nat) (s : PState) (k : BlockResult → PState → Outcome)
    (Q : Val → Bool → PState → Prop)
    (hk : ∀ r s2, s2.pt = s.pt → J s2 → (k r s2).Sat Q (fun _ => True)) (hj : J s) :
    (runCodeBlock E blk s k).Sat Q (fun _ => True) :=
  runCodeBlock_cases (Q := (Outcome.Sat · Q fun _ => True)) (fun _ _ => trivial) fun _ =>
    hk _ _ (by simp) (hJ.congr _ _ (by simp) (by simp) hj)

include hcall

theorem seq_prog (pt : Savepoint) (st : Store) (es : List Expr) : ∀ (s : PState) (acc : List Val), FInv E s → J s →
    CSeq C rn es s.pt.pos.off →
    (parseSeq E rec pt st es s acc).Sat (fun _ ok s' => J s' ∧ AdvTo (nulAll rn es) s.pt.pos.off ok s'.pt.pos.off)
      (fun _ => True) := by
  induction es with
  | nil => exact fun s acc _ hj _ => ⟨hj, .stay rfl⟩
  | cons e es ih =>
    intro s acc hi hj hc
    rw [parseSeq_cons]
    refine (hcall e s hi hj hc.1).bind fun v ok s1 h => ?_
    cases ok with
    | false => exact ⟨hJ.congr _ _ (by simp) (by simp) h.acct, .fail⟩
    | true =>
      exact (ih s1 _ h.inv h.acct (hc.2 _ (h.adv rfl).1 (h.adv rfl).2)).imp fun _ _ _ h' => ⟨h'.1, h.adv.trans h'.2⟩

theorem choice_prog (line col : Nat) (alts : List Expr) : ∀ (i : Nat) (s : PState), FInv E s → J s →
    (∀ a ∈ alts, C a s.pt.pos.off) →
    (parseChoice E rec line col alts i s).Sat (fun _ ok s' => J s' ∧ AdvTo (nulAny rn alts) s.pt.pos.off ok s'.pt.pos.off)
      (fun _ => True) := by
  induction alts with
  | nil => exact fun i s _ hj _ => ⟨hJ.congr s _ rfl rfl hj, .fail⟩
  | cons a alts ih =>
    intro i s hi hj hc
    rw [parseChoice_cons]
    refine (hcall a (pushV s) (hi.congr rfl rfl) (hJ.congr s _ rfl rfl hj) (hc a List.mem_cons_self)).bind fun v ok s1 h => ?_
    cases ok with
    | true => exact ⟨hJ.congr s1 _ rfl rfl h.acct, h.adv.mono fun hb => Bool.or_eq_true_iff.mpr (.inl hb)⟩
    | false =>
      have hoff : (restoreState E (popV s1) s.state).pt.pos.off = s.pt.pos.off := by rw [restoreState.pt]; exact h.failOff rfl
      refine (ih (i + 1) _ (h.inv.congr (by simp) (by simp)) (hJ.congr _ _ (by simp) (by simp) h.acct)
        fun a' ha' => hoff ▸ hc a' (List.mem_cons_of_mem _ ha')).imp fun _ _ _ h' => ⟨h'.1, ?_⟩
      rw [← hoff]
      exact h'.2.mono fun hb => Bool.or_eq_true_iff.mpr (.inr hb)

theorem loop_prog (e : Expr) (k : Nat) : ∀ (s : PState) (acc : List Val), FInv E s → J s →
    (∀ off', s.pt.pos.off ≤ off' → C e off') →
    (parseLoop E rec e k s acc).Sat
      (fun _ ok s' => J s' ∧ s.pt.pos.off ≤ s'.pt.pos.off ∧ (acc = [] → AdvTo (e.nul rn) s.pt.pos.off ok s'.pt.pos.off))
      (fun _ => True) := by
  induction k with
  | zero => exact fun _ _ _ _ _ => trivial
  | succ k ih =>
    intro s acc hi hj hc
    rw [parseLoop_succ]
    refine (hcall e (pushV s) (hi.congr rfl rfl) (hJ.congr s _ rfl rfl hj) (hc _ (Nat.le_refl _))).bind fun v ok s1 h => ?_
    have hj2 : J (popV s1) := hJ.congr s1 _ rfl rfl h.acct
    cases ok with
    | true =>
      exact (ih (popV s1) (v :: acc) (h.inv.congr rfl rfl) hj2 fun off' ho => hc off' (Nat.le_trans h.le ho)).imp
        fun _ _ _ h' => ⟨h'.1, Nat.le_trans h.le h'.2.1, fun _ => h.adv.trans_le h'.2.1⟩
    | false =>
      have hle : s.pt.pos.off ≤ (popV s1).pt.pos.off := h.le
      exact iteInduction (motive := (Outcome.Sat · _ _)) nofun fun _ => iteInduction (motive := (Outcome.Sat · _ _))
        (fun _ => ⟨hj2, hle, fun _ => .fail⟩) fun hne => ⟨hj2, hle, fun hnil => absurd (hnil ▸ rfl) hne⟩

theorem rule_prog (r : Rule) (s : PState) (hi : FInv E s) (hj : J s) (hc : C r.expr s.pt.pos.off) :
    (parseRule E rec r s).Sat (fun _ ok s' => J s' ∧ AdvTo (r.expr.nul rn) s.pt.pos.off ok s'.pt.pos.off) (fun _ => True) := by
  rw [parseRule_eq]
  exact (hcall r.expr (pushV { s with rstack := r :: s.rstack }) (hi.congr rfl rfl) (hJ.congr s _ rfl rfl hj) hc).bind
    fun v ok s1 h => h.keep hJ rfl rfl rfl

theorem body_prog (k : Nat) (e : Expr) (s : PState) (hi : FInv E s) (hj : J s) (hc : CBody C rn e s.pt.pos.off)
    (hrule : ∀ id name r, e = .ruleRef id name → E.findRule name = some r →
      (parseRuleWrap E rec k r s).Sat (fun _ ok s' => J s' ∧ AdvTo (rn name) s.pt.pos.off ok s'.pt.pos.off) (fun _ => True)) :
    (parseExprBody E rec k e s).Sat (fun _ ok s' => J s' ∧ AdvTo (e.nul rn) s.pt.pos.off ok s'.pt.pos.off) (fun _ => True) := by
  have quiet : ∀ s' : PState, s'.memo = s.memo → s'.exprCnt = s.exprCnt → J s' := fun s' a b => hJ.congr _ _ a b hj
  -- the sub-expression of a one-level construct, called on a fresh value frame
  have sub := fun e1 hc1 => hcall e1 (pushV s) (hi.congr rfl rfl) (quiet _ rfl rfl) hc1
  -- a one-rune matcher fails in place or moves forward
  have fail1 : ∀ (want : String) {b : Bool}, (Outcome.done .nil false (failAt s false s.pt.pos want)).Sat
      (fun _ ok s' => J s' ∧ AdvTo b s.pt.pos.off ok s'.pt.pos.off) (fun _ => True) :=
    fun _ _ => ⟨quiet _ failAt.memo failAt.exprCnt, .fail⟩
  have step1 : ∀ (want : String) {b : Bool}, ¬(s.pt.rn = runeError ∧ s.pt.w = 0) →
      (matchOne E s want).Sat (fun _ ok s' => J s' ∧ AdvTo b s.pt.pos.off ok s'.pt.pos.off) (fun _ => True) := by
    intro want b hne
    refine ⟨quiet _ (by simp) (by simp), .of_lt ?_⟩
    rw [failAt.pt, read_pt, nextPt_off]
    exact Nat.lt_add_of_pos_right (Nat.pos_of_ne_zero fun h0 => hne ⟨hi.2.1.w0 h0, h0⟩)
  cases e with
  | andCode id blk | notCode id blk =>
    dsimp only [parseExprBody, parseAndCode, parseNotCode]
    refine runCodeBlock_acct hJ blk s _ _ (fun r s2 h2 hj2 => ?_) hj
    exact ⟨hJ.congr _ _ restoreState.memo restoreState.exprCnt hj2, .of_le (Nat.le_of_eq (by rw [restoreState.pt, h2]))⟩
  | stateCode id blk =>
    exact iteInduction (motive := (Outcome.Sat · _ _)) (fun _ => trivial) fun _ =>
      runCodeBlock_acct hJ blk s _ _ (fun r s2 h2 hj2 => ⟨hj2, .of_le (Nat.le_of_eq (by rw [h2]))⟩) hj
  | any id => exact parseAny_cases (Q := (Outcome.Sat · _ _)) (fail1 ".") (step1 ".")
  | cls id c => exact parseCharClass_cases (Q := (Outcome.Sat · _ _)) (fail1 c.val) (step1 c.val)
  | lit id val ic want =>
    exact (lit_acct s.pt want ic val s).imp fun v ok s' ⟨hm, hcnt, h⟩ => ⟨quiet _ hm hcnt, h⟩
  | action id blk e1 =>
    refine (hcall e1 s hi hj hc).bind fun v ok s1 h => ?_
    cases ok with
    | false => exact ⟨h.acct, .fail⟩
    | true =>
      simp only [if_true]
      split
      · trivial
      · exact h.keep hJ (by simp) (by simp) (by simp)
  | and id e1 =>
    exact (sub e1 hc).bind fun v ok s1 h =>
      ⟨hJ.congr s1 _ (restore.memo.trans restoreState.memo) (restore.exprCnt.trans restoreState.exprCnt) h.acct,
        .of_le (Nat.le_of_eq (restore_off ..).symm)⟩
  | not id e1 =>
    exact (hcall e1 { pushV s with maxFailInvert := !s.maxFailInvert } (hi.congr rfl rfl) (quiet _ rfl rfl) hc).bind
      fun v ok s1 h => ⟨hJ.congr s1 _ (restore.memo.trans restoreState.memo) (restore.exprCnt.trans restoreState.exprCnt) h.acct,
        .of_le (Nat.le_of_eq (restore_off ..).symm)⟩
  | labeled id l e1 =>
    exact (sub e1 hc).bind fun v ok s1 h =>
      iteInduction (motive := fun t => J t ∧ AdvTo _ _ ok t.pt.pos.off) (fun _ => h.keep hJ setLabel.pt setLabel.memo setLabel.exprCnt)
        fun _ => h.keep hJ rfl rfl rfl
  | zeroOrOne id e1 => exact (sub e1 hc).bind fun v ok s1 h => ⟨hJ.congr s1 _ rfl rfl h.acct, .of_le h.le⟩
  | recovery id e1 r labels =>
    exact (hcall e1 (pushRecovery s labels r) (hi.congr rfl rfl) (quiet _ rfl rfl) hc).bind fun v ok s1 h =>
      ⟨hJ.congr s1 _ rfl rfl h.acct, h.adv.mono fun _ => rfl⟩
  | choice id line col alts => exact choice_prog hJ hcall line col alts 0 s hi hj hc
  | seq id es => exact seq_prog hJ hcall s.pt s.state es s [] hi hj hc
  | oneOrMore id e1 => exact (loop_prog hJ hcall e1 k s [] hi hj hc).imp fun v ok s' h => ⟨h.1, h.2.2 rfl⟩
  | zeroOrMore id e1 =>
    refine (loop_prog hJ hcall e1 k s [] hi hj hc).bind fun v ok s1 h => ?_
    cases ok <;> exact ⟨h.1, .of_le h.2.1⟩
  | throw id label => exact throw_prog hcall label s.recoveryStack s hi hj hc
  | ruleRef id name =>
    exact parseRuleRef_cases (Q := (Outcome.Sat · _ _)) trivial ⟨quiet _ rfl rfl, .fail⟩ fun r hf => hrule id name r rfl hf

end


/-! ### the plain configuration -/

theorem MemoInv.acct {J : PState → Prop} (hJ : MemoInv J) : AcctInv J := ⟨fun s s' h _ => hJ.congr s s' h⟩

theorem CSeq.triv {rn : String → Bool} (es : List Expr) : ∀ off : Nat, CSeq (fun _ _ => True) rn es off := by
  induction es with
  | nil => exact fun _ => trivial
  | cons _ es ih => exact fun _ => ⟨trivial, fun off' _ _ => ih off'⟩

theorem CBody.triv {rn : String → Bool} (e : Expr) (off : Nat) : CBody (fun _ _ => True) rn e off := by
  cases e with
  | seq _ es => exact CSeq.triv es off
  | choice | oneOrMore | zeroOrMore => exact fun _ _ => trivial
  | throw => exact fun _ => trivial
  | _ => trivial

theorem lit_adv {E : Env} (start : Savepoint) (want : String) (ic : Bool) (rs : List Rune) (s : PState) :
    (parseLit E start want ic rs s).Sat
      (fun _ ok s' => s'.memo = s.memo ∧ (ok = true → s.pt.pos.off ≤ s'.pt.pos.off ∧ (s'.pt.pos.off = s.pt.pos.off → rs = [])))
      (fun _ => True) :=
  (lit_acct start want ic rs s).imp fun _ _ _ h =>
    ⟨h.1, fun hok => ⟨(h.2.2 hok).1, fun heq => List.isEmpty_iff.mp ((h.2.2 hok).2 heq)⟩⟩

section
variable {E : Env} {rec : Expr → PState → Outcome} {rn : String → Bool}
variable {J : PState → Prop} (hJ : MemoInv J)
variable (hmz : E.opts.memoize = false) (hfr : ∀ e s, FrameInv E s (rec e s))
  (hrec : ∀ e s, FInv E s → J s → (rec e s).Sat (fun _ ok s' => J s' ∧ Adv rn e s ok s') (fun _ => True))
include hmz hfr hrec

/-- with Memoize off a sub-call is the recursive call; the frame theorem adds what `hrec` does not say -/
theorem call_adv (e : Expr) (s : PState) (hi : FInv E s) (hj : J s) :
    (parseExprWrap E rec e s).Sat (fun _ ok s' => CallPost E rn J e s ok s') (fun _ => True) := by
  rw [wrap_eq hmz]
  exact ((hrec e s hi hj).and (hfr e s hi.1)).imp fun _ _ _ ⟨h1, h2⟩ => ⟨hi.of_framed h2, h1.1, h1.2, h2.failOff⟩

include hJ

theorem rule_adv (r : Rule) (s : PState) (hi : FInv E s) (hj : J s) :
    (parseRule E rec r s).Sat (fun _ ok s' => J s' ∧ Adv rn r.expr s ok s') (fun _ => True) :=
  rule_prog (C := fun _ _ => True) hJ.acct (fun e s hi hj _ => call_adv hmz hfr hrec e s hi hj) r s hi hj trivial

/-- ... and where it ends at its start the rule's name is in a closed oracle -/
theorem rule_adv_named (hrn : ∀ n r, E.findRule n = some r → r.expr.nul rn = true → rn n = true) {name : String} {r : Rule}
    (hf : E.findRule name = some r) (s : PState) (hi : FInv E s) (hj : J s) :
    (parseRule E rec r s).Sat (fun _ ok s' => J s' ∧ AdvTo (rn name) s.pt.pos.off ok s'.pt.pos.off) (fun _ => True) :=
  (rule_adv hJ hmz hfr hrec r s hi hj).imp fun _ _ _ h => ⟨h.1, AdvTo.mono h.2 (hrn name r hf)⟩

theorem body_adv
    (hrule : ∀ (k : Nat) (name : String) (r : Rule) (s : PState), E.findRule name = some r → FInv E s → J s →
      (parseRuleWrap E rec k r s).Sat
        (fun _ ok s' => J s' ∧ (ok = true → s.pt.pos.off ≤ s'.pt.pos.off ∧ (s'.pt.pos.off = s.pt.pos.off → rn name = true)))
        (fun _ => True))
    (k : Nat) (e : Expr) (s : PState) (hi : FInv E s) (hj : J s) :
    (parseExprBody E rec k e s).Sat (fun _ ok s' => J s' ∧ Adv rn e s ok s') (fun _ => True) :=
  body_prog hJ.acct (fun e s hi hj _ => call_adv hmz hfr hrec e s hi hj) k e s hi hj (CBody.triv _ _)
    (fun _ name r _ hf => hrule k name r s hf hi hj)

end

/-- Progress, by one induction on the depth for every configuration with Memoize off; `hrule` is what the rule
    dispatcher of the configuration does, given the calls one level down. -/
theorem adv_gen {E : Env} {rn : String → Bool} {J : PState → Prop} (hJ : MemoInv J) (hmz : E.opts.memoize = false)
    (hrule : ∀ f, (∀ e s, FInv E s → J s → (parseExpr E f e s).Sat (fun _ ok s' => J s' ∧ Adv rn e s ok s') (fun _ => True)) →
      ∀ (k : Nat) (name : String) (r : Rule) (s : PState), E.findRule name = some r → FInv E s → J s →
        (parseRuleWrap E (parseExpr E f) k r s).Sat (fun _ ok s' => J s' ∧ AdvTo (rn name) s.pt.pos.off ok s'.pt.pos.off)
          (fun _ => True)) :
    ∀ (f : Nat) (e : Expr) (s : PState), FInv E s → J s →
      (parseExpr E f e s).Sat (fun _ ok s' => J s' ∧ Adv rn e s ok s') (fun _ => True) := by
  intro f
  induction f with
  | zero => exact fun _ _ _ _ => trivial
  | succ f ih =>
    intro e s hi hj
    rw [parseExpr_step]
    exact iteInduction (motive := (Outcome.Sat · _ _)) (fun _ => trivial) fun _ =>
      body_adv hJ hmz (parseExpr_frame E f) ih (hrule f ih) f e (bump s) (hi.congr rfl rfl) (hJ.congr s _ rfl hj)

/-- **Progress.** In the plain configuration, for every grammar, code environment, input and depth: a successful
    evaluation ends at or after the position it started at, and if it ends where it started then the expression is
    nullable according to the static analysis (relative to any closed rule oracle `rn`). -/
theorem adv {E : Env} (hp : Plain E) {rn : String → Bool}
    (hrn : ∀ n r, E.findRule n = some r → r.expr.nul rn = true → rn n = true) :
    ∀ (f : Nat) (e : Expr) (s : PState), FInv E s →
      (parseExpr E f e s).Sat (fun _ ok s' => Adv rn e s ok s') (fun _ => True) := fun f e s hi =>
  have hJ : MemoInv (fun _ : PState => True) := ⟨fun _ _ _ _ => trivial⟩
  (adv_gen hJ hp.nomemo (fun f ih k name r s hf hi hj => by
      rw [ruleWrap_eq hp k name r hf]
      exact rule_adv_named hJ hp.nomemo (parseExpr_frame E f) ih hrn hf s hi hj) f e s hi trivial).imp
    fun _ _ _ h => h.2

end RT
end PV
