/-
  Lemmas of the independent specification `Mid.Spec` (`nullE`, `nullRules`, `specGraph`, `leftRec`): nullability is
  monotone in the oracle, the nullable-rule iteration ends in a fixed point (hence a closed oracle), `leftRec` says that
  some rule lies on a cycle of the specification's graph, and without one the number of reachable vertices ranks the graph.
-/
import PigeonVerif.Proofs.Reach

namespace PV
open Mid

theorem filter_sublist_of_imp {α : Type} (p q : α → Bool) : ∀ (l : List α), (∀ x ∈ l, p x = true → q x = true) →
    (l.filter p).Sublist (l.filter q) := by
  intro l h
  -- filtering with `p` after `q` loses nothing
  have : l.filter p = (l.filter q).filter p := by
    rw [List.filter_filter]
    refine List.filter_congr fun x hx => ?_
    cases hp : p x
    · rfl
    · rw [h x hx hp]; rfl
  rw [this]
  exact List.filter_sublist

/-- Stated for any `iter` that unfolds as in `hs`, so that it serves `Spec.nullRules.iter` and `nullIter` (its twin over
    the runtime's rules, Proofs/Bridge.lean) alike; the argument never looks at what a rule or "nullable" is. -/
theorem iter_fix {step : List String → List String} {B : Nat}
    (hmono : ∀ N M, (∀ n, n ∈ N → n ∈ M) → (step N).Sublist (step M)) (hlen : ∀ N, (step N).length ≤ B)
    {iter : Nat → List String → List String}
    (hs : ∀ k N, iter (k + 1) N = if (step N).length = N.length then N else iter k (step N)) :
    ∀ (k : Nat) (N : List String), N.Sublist (step N) → B + 1 ≤ N.length + k → step (iter k N) = iter k N := by
  intro k
  induction k with
  | zero => intro N hsub hk; have := hsub.length_le; have := hlen N; omega
  | succ k ih =>
    intro N hsub hk
    rw [hs]
    by_cases hl : (step N).length = N.length
    · rw [if_pos hl]; exact (hsub.eq_of_length hl.symm).symm
    · rw [if_neg hl]
      exact ih (step N) (hmono _ _ fun n hn => hsub.subset hn) (by have := hsub.length_le; omega)

namespace Mid
open Spec

mutual
theorem nullE_mono {N M : List String} (h : ∀ n, n ∈ N → n ∈ M) : (e : AExpr) → nullE N e = true → nullE M e = true
  | .action _ e | .labeled e | .plus e | .recovery _ e _ => nullE_mono h e
  | .andCode | .notCode | .stateCode | .and _ | .not _ | .star _ | .opt _ | .throw | .any | .cls _ | .lit _ => id
  | .choice _ es => nullAny_mono h es
  | .seq _ es => nullAll_mono h es
  | .ref _ _ => fun hh => List.contains_iff_mem.mpr (h _ (List.contains_iff_mem.mp hh))
theorem nullAny_mono {N M : List String} (h : ∀ n, n ∈ N → n ∈ M) : (es : List AExpr) →
    nullE.nullAny N es = true → nullE.nullAny M es = true
  | [] => id
  | e :: es => fun hh => Bool.or_eq_true_iff.mpr ((Bool.or_eq_true_iff.mp hh).imp (nullE_mono h e) (nullAny_mono h es))
theorem nullAll_mono {N M : List String} (h : ∀ n, n ∈ N → n ∈ M) : (es : List AExpr) →
    nullE.nullAll N es = true → nullE.nullAll M es = true
  | [] => id
  | e :: es => fun hh => Bool.and_eq_true_iff.mpr ((Bool.and_eq_true_iff.mp hh).imp (nullE_mono h e) (nullAll_mono h es))
end

def nstep (G : AGrammar) (N : List String) : List String := (G.filter (fun r => nullE N r.expr)).map (·.name)

theorem nstep_mono (G : AGrammar) {N M : List String} (h : ∀ n, n ∈ N → n ∈ M) : (nstep G N).Sublist (nstep G M) :=
  (filter_sublist_of_imp _ _ G fun _ _ hr => nullE_mono h _ hr).map _

theorem nstep_len (G : AGrammar) (N : List String) : (nstep G N).length ≤ G.length := by
  unfold nstep; rw [List.length_map]; exact List.length_filter_le _ _

theorem nullRules_fix (G : AGrammar) : nstep G (nullRules G) = nullRules G :=
  iter_fix (fun _ _ h => nstep_mono G h) (nstep_len G) (iter := nullRules.iter G) (fun _ _ => rfl)
    (G.length + 1) [] (List.nil_sublist _) (Nat.le_add_left ..)

theorem nullRules_closed (G : AGrammar) : ∀ r ∈ G, nullE (nullRules G) r.expr = true → r.name ∈ nullRules G := by
  intro r hr hn
  rw [← nullRules_fix G]
  exact List.mem_map.mpr ⟨r, List.mem_filter.mpr ⟨hr, hn⟩, rfl⟩

theorem mem_succs_specGraph {G : AGrammar} (hnd : (G.map (·.name)).Nodup) {r : ARule} (hr : r ∈ G) (m : String) :
    m ∈ succs (specGraph G) r.name ↔ m ∈ firstCalls (nullRules G) r.expr ∧ G.any (·.name = m) = true := by
  unfold succs specGraph
  rw [lookup_map_nodup (fun r : ARule => r.name) _ G hnd r hr]
  exact List.mem_filter

theorem specGraph_rank {G : AGrammar} (hnd : (G.map (·.name)).Nodup) (hspec : leftRec G = false) {r : ARule} (hr : r ∈ G)
    {m : String} (hm : m ∈ firstCalls (nullRules G) r.expr) (hdef : G.any (·.name = m) = true) :
    (reachFrom (specGraph G) m).length < (reachFrom (specGraph G) r.name).length := by
  refine acyclic_rank _ (specGraph_ok G) (fun v hv hin => ?_) ((mem_succs_specGraph hnd hr m).mpr ⟨hm, hdef⟩)
  rw [show (specGraph G).map (·.1) = G.map (·.name) from List.map_map] at hv
  obtain ⟨r', hr', rfl⟩ := List.mem_map.mp hv
  exact List.any_eq_false.mp hspec r' hr' (List.contains_iff_mem.mpr hin)

theorem leftRec_iff (G : AGrammar) : leftRec G = true ↔ ∃ r ∈ G, Path (specGraph G) r.name r.name := by
  unfold leftRec
  simp only [List.any_eq_true, List.contains_iff_mem, mem_reachFrom_iff _ (specGraph_ok G)]

end Mid
end PV
