/-
  The iteration as an ordinary rule body: if `Iter … p0 ok v q` (what the seed-growing loop computes, `Proofs/LRIter.lean`)
  then the ORDINARY parser, run on the expression `(b1 / … / bm) ((t1) / … / (tn))*` from any state at `p0` inside rule `A`,
  fails iff `ok = false` and otherwise ends at `q`.
-/
import PigeonVerif.Proofs.LRIter

namespace PV
namespace RT

section
variable {E : Env} {A : Rule}

theorem good_push {p : Savepoint} {t : PState} (h : GoodAt A p t) : GoodAt A p (pushV t) := ⟨by simpa using h.1, by simpa using h.2⟩
theorem good_bump {p : Savepoint} {t : PState} (h : GoodAt A p t) : GoodAt A p (bump t) := ⟨h.1, h.2⟩

/-- ordered choice among operands, replayed by the ordinary parser -/
theorem alt_replay {bs : List Expr} {p q : Savepoint} {ok : Bool} {v : Val} (h : AltAt E A bs p ok v q) :
    ∀ (l c i : Nat) (t : PState), GoodAt A p t →
      ∃ F t', parseChoice (noLR E) (parseExpr (noLR E) F) l c bs i t = .done v ok t' ∧ t'.pt = q ∧ t'.rstack = t.rstack := by
  induction h with
  | nil p =>
    intro l c i t ht
    exact ⟨0, incChoiceAlt t l c none, rfl, by simpa using ht.1, by simp⟩
  | hit hl =>
    intro l c i t ht
    obtain ⟨_, _, F0, h0⟩ := hl
    obtain ⟨t1, e1, hp1, hr1⟩ := h0 (pushV t) (good_push ht)
    exact ⟨F0, _, parseChoice_cons_ok (by rw [wrap_noLR]; exact e1), by simpa using hp1, by simpa using hr1⟩
  | miss hl _ ih =>
    intro l c i t ht
    obtain ⟨_, _, F0, h0⟩ := hl
    obtain ⟨t1, e1, hp1, hr1⟩ := h0 (pushV t) (good_push ht)
    have hg2 : GoodAt A _ (restoreState (noLR E) (popV t1) t.state) :=
      ⟨by simpa using hp1, by simpa [hr1] using ht.2⟩
    obtain ⟨F2, t', e2, hp2, hr2⟩ := ih l c (i + 1) _ hg2
    refine ⟨max F0 F2, t', ?_, hp2, by rw [hr2]; simpa using hr1⟩
    rw [parseChoice_cons_fail (by rw [wrap_noLR]; exact lift (Nat.le_max_left F0 F2) e1 Outcome.noConfusion),
      choice_ext (parseExpr_mono (noLR E) (Nat.le_max_right F0 F2)) l c _ (i + 1) _ (by rw [e2]; exact Outcome.noConfusion), e2]

/-- a sequence of operands, replayed; on failure the position is the one given to `parseSeq` -/
theorem seq_replay {es : List Expr} {p q : Savepoint} {ok : Bool} {vs : List Val} (h : SeqAt E A es p ok vs q) :
    ∀ (pt : Savepoint) (st : Store) (t : PState) (acc : List Val), GoodAt A p t → Reach E.input t.pt → Reach E.input pt →
      ∃ F t', parseSeq (noLR E) (parseExpr (noLR E) F) pt st es t acc =
          (if ok then .done (.list (acc.reverse ++ vs)) true t' else .done .nil false t') ∧
        (ok = true → t'.pt = q) ∧ (ok = false → t'.pt = pt) ∧ t'.rstack = t.rstack := by
  induction h with
  | nil p =>
    intro pt st t acc ht _ _
    exact ⟨0, t, by simp [parseSeq_nil], fun _ => ht.1, (fun h => by cases h), rfl⟩
  | cons hl _ ih =>
    intro pt st t acc ht hrt hrp
    obtain ⟨_, hq, F0, h0⟩ := hl
    obtain ⟨t1, e1, hp1, hr1⟩ := h0 t ht
    have hg1 : GoodAt A _ t1 := ⟨hp1, by rw [hr1]; exact ht.2⟩
    obtain ⟨F2, t', e2, hT, hF, hr2⟩ := ih pt st t1 (_ :: acc) hg1 (by rw [hp1]; exact hq) hrp
    refine ⟨max F0 F2, t', ?_, hT, hF, by rw [hr2, hr1]⟩
    rw [parseSeq_cons_ok (by rw [wrap_noLR]; exact lift (Nat.le_max_left F0 F2) e1 Outcome.noConfusion),
      seq_ext (parseExpr_mono (noLR E) (Nat.le_max_right F0 F2)) pt st _ t1 _ (by rw [e2]; split <;> exact Outcome.noConfusion), e2]
    simp [List.reverse_cons, List.append_assoc]
  | fail hl =>
    intro pt st t acc ht hrt hrp
    obtain ⟨_, _, F0, h0⟩ := hl
    obtain ⟨t1, e1, hp1, hr1⟩ := h0 t ht
    refine ⟨F0, _, parseSeq_cons_fail (by rw [wrap_noLR]; exact e1), (fun h => by cases h), fun _ => ?_, ?_⟩
    · exact restore_pt (E := E) _ pt (by simpa [hp1] using ht.1 ▸ hrt) hrp
    · simpa using hr1

/-- the end position of a matching sequence of operands is a reader position (given that the start is) -/
theorem seqAt_reach {es : List Expr} {p q : Savepoint} {ok : Bool} {vs : List Val} (h : SeqAt E A es p ok vs q)
    (hp : Reach E.input p) : Reach E.input q := by
  induction h with
  | nil p => exact hp
  | cons hl _ ih => exact ih hl.2.1
  | fail _ => exact hp

theorem tailsAt_reach {ts : List (List Expr)} {p : Savepoint} {r : Option (List Val × Savepoint)} (h : TailsAt E A ts p r)
    (hp : Reach E.input p) : ∀ vs q, r = some (vs, q) → Reach E.input q := by
  induction h with
  | nil p => intro _ _ h; cases h
  | hit hs => intro vs q h; cases h; exact seqAt_reach hs hp
  | miss _ _ ih => exact ih hp

theorem altAt_reach {bs : List Expr} {p q : Savepoint} {ok : Bool} {v : Val} (h : AltAt E A bs p ok v q)
    (hp : Reach E.input p) : Reach E.input q := by
  induction h with
  | nil p => exact hp
  | hit hl => exact hl.2.1
  | miss _ _ ih => exact ih hp

section
variable (hnb : E.opts.maxExpr = none)
include hnb

theorem step0 (F : Nat) (e : Expr) (t : PState) :
    parseExpr (noLR E) (F + 1) e t = parseExprBody (noLR E) (parseExpr (noLR E) F) F e (bump t) :=
  parseExpr_nobudget (E := noLR E) hnb F e t

omit hnb in
/-- the outcome of the choice among the tails, as an outcome of the parser -/
def tailsOut (r : Option (List Val × Savepoint)) (t' : PState) : Outcome :=
  match r with
  | some (vs, _) => .done (.list vs) true t'
  | none => .done .nil false t'

omit hnb in
def tailsEnd (r : Option (List Val × Savepoint)) (p : Savepoint) : Savepoint :=
  match r with
  | some (_, q) => q
  | none => p

/-- the alternatives `(t1) / … / (tn)`, each a sequence node of its own -/
theorem tails_replay {ts : List (List Expr)} {p : Savepoint} {r : Option (List Val × Savepoint)}
    (h : TailsAt E A ts p r) : ∀ (l c i : Nat) (t : PState), GoodAt A p t → Reach E.input t.pt →
      ∃ F t', parseChoice (noLR E) (parseExpr (noLR E) F) l c (ts.map (.seq 0)) i t = tailsOut r t' ∧
        t'.pt = tailsEnd r p ∧ t'.rstack = t.rstack := by
  induction h with
  | nil p =>
    intro l c i t ht _
    exact ⟨0, incChoiceAlt t l c none, by simp [parseChoice_nil, tailsOut], by simpa [tailsEnd] using ht.1, by simp⟩
  | hit hs =>
    intro l c i t ht hrt
    obtain ⟨F0, t1, e1, hT, _, hr1⟩ := seq_replay hs (bump (pushV t)).pt (bump (pushV t)).state (bump (pushV t)) []
      (good_bump (good_push ht)) (by simpa using hrt) (by simpa using hrt)
    exact ⟨F0 + 1, _, parseChoice_cons_ok (by rw [wrap_noLR, step0 hnb]; exact e1), by simpa [tailsEnd] using hT rfl,
      by simpa using hr1⟩
  | @miss tl tls p0 q0 vs0 r0 hs _ ih =>
    intro l c i t ht hrt
    obtain ⟨F0, t1, e1, _, hF, hr1⟩ := seq_replay hs (bump (pushV t)).pt (bump (pushV t)).state (bump (pushV t)) []
      (good_bump (good_push ht)) (by simpa using hrt) (by simpa using hrt)
    have hp1 : t1.pt = t.pt := by simpa using hF rfl
    have hg2 : GoodAt A _ (restoreState (noLR E) (popV t1) t.state) :=
      ⟨by simpa [hp1] using ht.1, by simpa [hr1] using ht.2⟩
    obtain ⟨F2, t', e2, hp2, hr2⟩ := ih l c (i + 1) _ hg2 (by simpa [hp1] using hrt)
    refine ⟨max (F0 + 1) F2, t', ?_, hp2, by rw [hr2]; simpa using hr1⟩
    have hstep : parseExpr (noLR E) (F0 + 1) (.seq 0 tl) (pushV t) = .done .nil false t1 := (step0 hnb _ _ _).trans e1
    rw [List.map_cons, parseChoice_cons_fail (by rw [wrap_noLR]; exact lift (Nat.le_max_left (F0 + 1) F2) hstep Outcome.noConfusion),
      choice_ext (parseExpr_mono (noLR E) (Nat.le_max_right (F0 + 1) F2)) l c _ (i + 1) _
        (by rw [e2]; unfold tailsOut; split <;> exact Outcome.noConfusion), e2]

/-- the greedy repetition of the tails -/
theorem reps_replay {tails : List (List Expr)} {p q : Savepoint} {v v' : Val} (h : Reps E A tails p v q v') :
    ∀ (t : PState) (acc : List Val), GoodAt A p t → Reach E.input t.pt →
      ∃ F w ok' t', parseLoop (noLR E) (parseExpr (noLR E) F) (.choice 0 0 0 (tails.map (.seq 0))) F t acc = .done w ok' t' ∧
        t'.pt = q ∧ t'.rstack = t.rstack := by
  induction h with
  | stop hn =>
    intro t acc ht hrt
    obtain ⟨F0, t1, e1, hp1, hr1⟩ := tails_replay hnb hn 0 0 0 (bump (pushV t)) (good_bump (good_push ht)) (by simpa using hrt)
    have hbody : parseExpr (noLR E) (F0 + 1) (.choice 0 0 0 (tails.map (.seq 0))) (pushV t) = .done .nil false t1 :=
      (step0 hnb _ _ _).trans e1
    have hloop := parseLoop_succ_fail (k := F0) (acc := acc) ((wrap_noLR (E := E) _ _).trans hbody)
    by_cases hacc : acc.isEmpty = true
    · exact ⟨F0 + 1, .nil, false, popV t1, by rw [hloop, if_pos hacc], hp1, hr1⟩
    · exact ⟨F0 + 1, .list acc.reverse, true, popV t1, by rw [hloop, if_neg hacc], hp1, hr1⟩
  | @step p0 q0 q1 v0 v1 vs0 hs _ _ ih =>
    intro t acc ht hrt
    obtain ⟨F0, t1, e1, hp1, hr1⟩ := tails_replay hnb hs 0 0 0 (bump (pushV t)) (good_bump (good_push ht)) (by simpa using hrt)
    have hbody : parseExpr (noLR E) (F0 + 1) (.choice 0 0 0 (tails.map (.seq 0))) (pushV t) = .done (.list vs0) true t1 :=
      (step0 hnb _ _ _).trans e1
    have hp1' : t1.pt = q0 := hp1
    have hq : Reach E.input t1.pt := by
      rw [hp1']
      exact tailsAt_reach hs (by rw [← ht.1]; exact hrt) _ _ rfl
    have hg1 : GoodAt A q0 (popV t1) := ⟨hp1', by simpa [hr1] using ht.2⟩
    obtain ⟨F2, w, ok', t', e2, hp2, hr2⟩ := ih (popV t1) (.list vs0 :: acc) hg1 hq
    refine ⟨max (F0 + 1) F2 + 1, w, ok', t', ?_, hp2, hr2.trans hr1⟩
    rw [parseLoop_succ_ok ((wrap_noLR (E := E) _ _).trans
        (lift (Nat.le_trans (Nat.le_max_left (F0 + 1) F2) (Nat.le_succ _)) hbody Outcome.noConfusion)),
      loop_ext (parseExpr_mono (noLR E) (Nat.le_trans (Nat.le_max_right (F0 + 1) F2) (Nat.le_succ _))) _ F2
        (max (F0 + 1) F2) _ _ (Nat.le_max_right (F0 + 1) F2) (by rw [e2]; exact Outcome.noConfusion), e2]

end

/-- the rule body the iteration is: `(b1 / … / bm) ((t1) / … / (tn))*` -/
def iterExpr (tails : List (List Expr)) (bases : List Expr) : Expr :=
  .seq 0 [.choice 0 0 0 bases, .zeroOrMore 0 (.choice 0 0 0 (tails.map (.seq 0)))]

/-- **The iteration, run by the ordinary parser.** -/
theorem iter_replay (hnb : E.opts.maxExpr = none) {tails : List (List Expr)} {bases : List Expr} {p0 q : Savepoint}
    {ok : Bool} {v : Val} (h : Iter E A tails bases p0 ok v q) (t : PState) (ht : GoodAt A p0 t)
    (hrt : Reach E.input t.pt) :
    ∃ F w t', parseExpr (noLR E) F (iterExpr tails bases) t = .done w ok t' ∧ t'.pt = q := by
  have hb1 : GoodAt A p0 (bump (bump t)) := good_bump (good_bump ht)
  rcases h with ⟨rfl, ha⟩ | ⟨rfl, v1, p1, ha, hr⟩
  · -- no base matches
    obtain ⟨hv, hq⟩ := ha.fail_inv
    obtain ⟨Fa, ta, ea, hpa, hra⟩ := alt_replay ha 0 0 0 (bump (bump t)) hb1
    have hch : parseExpr (noLR E) (Fa + 1) (.choice 0 0 0 bases) (bump t) = .done v false ta := (step0 hnb _ _ _).trans ea
    refine ⟨Fa + 2, .nil, restore (restoreState (noLR E) ta (bump t).state) (bump t).pt, ?_, ?_⟩
    · rw [step0 hnb]
      exact parseSeq_cons_fail ((wrap_noLR (E := E) _ _).trans hch)
    · rw [hq]
      have := restore_pt (E := E) (restoreState (noLR E) ta (bump t).state) (bump t).pt
        (by simpa [hpa, hq] using ht.1 ▸ hrt) hrt
      rw [this]; exact ht.1
  · -- a base, then the tails
    obtain ⟨Fa, ta, ea, hpa, hra⟩ := alt_replay ha 0 0 0 (bump (bump t)) hb1
    have hch : parseExpr (noLR E) (Fa + 1) (.choice 0 0 0 bases) (bump t) = .done v1 true ta := (step0 hnb _ _ _).trans ea
    have hp1 : Reach E.input p1 := altAt_reach ha (by rw [← ht.1]; exact hrt)
    have hga : GoodAt A p1 (bump ta) := ⟨hpa, (congrArg List.head? hra).trans ht.2⟩
    obtain ⟨F2, w, ok', t2, e2, hp2, _⟩ := reps_replay hnb hr (bump ta) [] hga (hpa ▸ hp1)
    have hstar : ∃ w', parseExpr (noLR E) (F2 + 1) (.zeroOrMore 0 (.choice 0 0 0 (tails.map (.seq 0)))) ta = .done w' true t2 := by
      rw [step0 hnb]
      dsimp only [parseExprBody, parseZeroOrMore]
      rw [e2]
      simp only [Outcome.bind]
      split
      · exact ⟨w, rfl⟩
      · exact ⟨.list [], rfl⟩
    obtain ⟨w', hstar⟩ := hstar
    refine ⟨max (Fa + 1) (F2 + 1) + 1, .list [v1, w'], t2, ?_, hp2⟩
    rw [step0 hnb]
    dsimp only [parseExprBody, iterExpr]
    rw [parseSeq_cons_ok ((wrap_noLR (E := E) _ _).trans (lift (Nat.le_max_left (Fa + 1) (F2 + 1)) hch Outcome.noConfusion)),
      parseSeq_cons_ok ((wrap_noLR (E := E) _ _).trans (lift (Nat.le_max_right (Fa + 1) (F2 + 1)) hstar Outcome.noConfusion))]
    rfl

end

end RT
end PV
