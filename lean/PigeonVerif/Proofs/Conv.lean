/-
  Termination by a measure, once for every configuration.

  `Expr.first` / `Expr.wfs` / `Expr.size` are the static ingredients (first graph, shape, size). `ConvCtx` is what the
  induction needs to know about a configuration: an invariant `I` of the states, a measure `M` that never grows along a
  call and stays equal only if the call consumed nothing, and what is known after a call that returned. `RuleCtx` adds
  how rule references behave: the names in `L` are answered without descending at the same measure (leaders, undefined
  names; nothing in the plain configuration), every other reference runs `parseRule`, and `rank` strictly decreases
  along the first-graph edges that do not lead into `L`. `term_gen` is the one induction on (measure, rank bound, size);
  `WFTerm.lean` and `LRTerm.lean` are its two instances. The depths at which the parts of a computation return are
  combined by `conv_bind` (`FuelStable`: more fuel does not change a result), so no lemma here picks a maximum itself.
-/
import PigeonVerif.Proofs.Advance
import PigeonVerif.Proofs.TermProof
import PigeonVerif.Proofs.FuelMono

namespace PV

mutual
/-- the rules an expression can invoke at the position where it starts -/
def Expr.first (rn : String → Bool) : Expr → List String
  | .action _ _ e | .labeled _ _ e | .oneOrMore _ e | .zeroOrMore _ e | .zeroOrOne _ e | .and _ e | .not _ e => e.first rn
  | .choice _ _ _ es => firstAny rn es
  | .seq _ es => firstSeq rn es
  | .ruleRef _ n => [n]
  | .recovery _ e r _ => e.first rn ++ r.first rn
  | .andCode _ _ | .notCode _ _ | .stateCode _ _ | .any _ | .cls _ _ | .lit _ _ _ _ | .throw _ _ => []
def firstAny (rn : String → Bool) : List Expr → List String
  | [] => []
  | e :: es => e.first rn ++ firstAny rn es
def firstSeq (rn : String → Bool) : List Expr → List String
  | [] => []
  | e :: es => e.first rn ++ (if e.nul rn then firstSeq rn es else [])
end

mutual
/-- shape: repetitions over non-nullable bodies only, no throw / recover -/
def Expr.wfs (rn : String → Bool) : Expr → Bool
  | .action _ _ e | .labeled _ _ e | .zeroOrOne _ e | .and _ e | .not _ e => e.wfs rn
  | .oneOrMore _ e | .zeroOrMore _ e => !e.nul rn && e.wfs rn
  | .choice _ _ _ es | .seq _ es => wfsL rn es
  | .recovery _ _ _ _ | .throw _ _ => false
  | .andCode _ _ | .notCode _ _ | .stateCode _ _ | .any _ | .cls _ _ | .lit _ _ _ _ | .ruleRef _ _ => true
def wfsL (rn : String → Bool) : List Expr → Bool
  | [] => true
  | e :: es => e.wfs rn && wfsL rn es
end

mutual
def Expr.size : Expr → Nat
  | .action _ _ e | .labeled _ _ e | .zeroOrOne _ e | .and _ e | .not _ e | .oneOrMore _ e | .zeroOrMore _ e => e.size + 1
  | .choice _ _ _ es | .seq _ es => sizeL es + 1
  | .recovery _ e r _ => e.size + r.size + 1
  | .andCode _ _ | .notCode _ _ | .stateCode _ _ | .any _ | .cls _ _ | .lit _ _ _ _ | .ruleRef _ _ | .throw _ _ => 1
def sizeL : List Expr → Nat
  | [] => 0
  | e :: es => e.size + sizeL es + 1
end

theorem size_mem {e : Expr} {es : List Expr} (h : e ∈ es) : e.size < sizeL es + 1 := by
  induction es with
  | nil => cases h
  | cons x xs ih =>
    show e.size < x.size + sizeL xs + 1 + 1
    rcases List.mem_cons.mp h with rfl | h
    · omega
    · have := ih h; omega

theorem wfs_mem {rn : String → Bool} {e : Expr} {es : List Expr} (hw : wfsL rn es = true) (h : e ∈ es) : e.wfs rn = true := by
  induction es with
  | nil => cases h
  | cons x xs ih =>
    have hw : x.wfs rn = true ∧ wfsL rn xs = true := Bool.and_eq_true_iff.mp hw
    rcases List.mem_cons.mp h with rfl | h
    · exact hw.1
    · exact ih hw.2 h

theorem firstAny_mem {rn : String → Bool} {e : Expr} {m : String} : ∀ {es : List Expr}, e ∈ es → m ∈ e.first rn →
    m ∈ firstAny rn es := by
  intro es h hm
  induction es with
  | nil => cases h
  | cons x xs ih =>
    show m ∈ x.first rn ++ firstAny rn xs
    rcases List.mem_cons.mp h with rfl | h
    · exact List.mem_append_left _ hm
    · exact List.mem_append_right _ (ih h)

namespace RT

/-- input left -/
def rem (E : Env) (s : PState) : Nat := E.input.length - s.pt.pos.off

theorem rem_le {E : Env} {s s' : PState} (h : s.pt.pos.off ≤ s'.pt.pos.off) : rem E s' ≤ rem E s := by
  unfold rem; omega

/-- a position of the reader is inside the input, so moving on leaves less of it -/
theorem rem_lt {E : Env} {s s' : PState} (hi : FInv E s') (h : s.pt.pos.off < s'.pt.pos.off) : rem E s' < rem E s :=
  Nat.sub_lt_sub_left (Nat.lt_of_lt_of_le h (Nat.le_trans (Nat.le_add_right _ _) hi.2.1.le)) h

theorem off_eq_of_rem {E : Env} {s s' : PState} (hi : FInv E s') (h : s.pt.pos.off ≤ s'.pt.pos.off)
    (hr : rem E s' = rem E s) : s'.pt.pos.off = s.pt.pos.off :=
  (Nat.eq_or_lt_of_le h).elim Eq.symm fun hlt => absurd hr (Nat.ne_of_lt (rem_lt hi hlt))

/-! ### convergence -/

/-- the expression evaluates at some finite depth (`o ≠ .oof` is `Outcome.Term o` of `Proofs/TermProof.lean`) -/
def T (E : Env) (e : Expr) (s : PState) : Prop := ∃ f, parseExpr E f e s ≠ .oof

theorem size_pos (e : Expr) : 1 ≤ e.size := by
  cases e <;> exact Nat.succ_le_succ (Nat.zero_le _)

/-- a bound above the ranks of a list of names -/
def bigK (rank : String → Nat) (l : List String) : Nat := l.foldr (fun m acc => max (rank m + 1) acc) 0

theorem bigK_le_iff {rank : String → Nat} {b : Nat} {l : List String} : bigK rank l ≤ b ↔ ∀ m ∈ l, rank m + 1 ≤ b := by
  induction l with
  | nil => exact ⟨fun _ _ h => (nomatch h), fun _ => Nat.zero_le _⟩
  | cons x xs ih =>
    show max (rank x + 1) (bigK rank xs) ≤ b ↔ _
    rw [Nat.max_le, ih, List.forall_mem_cons]

theorem lt_bigK {rank : String → Nat} {m : String} {l : List String} (hm : m ∈ l) : rank m < bigK rank l :=
  bigK_le_iff.mp (Nat.le_refl _) m hm

theorem bigK_mono {rank : String → Nat} {l1 l2 : List String} (h : ∀ m ∈ l1, m ∈ l2) : bigK rank l1 ≤ bigK rank l2 :=
  bigK_le_iff.mpr (fun m hm => bigK_le_iff.mp (Nat.le_refl _) m (h m hm))

/-! ### results do not depend on how much fuel is left over -/

/-- more fuel does not change a result -/
def FuelStable (g : Nat → Outcome) : Prop := ∀ f F, f ≤ F → g f ≠ .oof → g F = g f

theorem parseExpr_stable (E : Env) (e : Expr) (s : PState) : FuelStable (fun F => parseExpr E F e s) :=
  fun _ _ hle hne => parseExpr_mono E hle e s hne

theorem FuelStable.const (o : Outcome) : FuelStable (fun _ => o) := fun _ _ _ _ => rfl

theorem FuelStable.ite {g1 g2 : Nat → Outcome} (c : Bool) (h1 : c = true → FuelStable g1) (h2 : c = false → FuelStable g2) :
    FuelStable (fun F => if c = true then g1 F else g2 F) := by
  cases c with
  | false => exact h2 rfl
  | true => exact h1 rfl

/-- convergence composes along `bind`: a call that returns with fuel `f1`, then a continuation that returns with fuel
    `F2` on what the call returned, return the same together with the larger of the two -/
theorem conv_bind {g : Nat → Outcome} {k : Nat → Val → Bool → PState → Outcome} (hg : FuelStable g)
    (hk : ∀ v ok s, FuelStable (fun F => k F v ok s)) (cg : ∃ f, g f ≠ .oof)
    (ck : ∀ f v ok s, g f = .done v ok s → ∃ F, k F v ok s ≠ .oof) : ∃ F, (g F).bind (k F) ≠ .oof := by
  obtain ⟨f1, h1⟩ := cg
  cases ho : g f1 with
  | oof => exact absurd ho h1
  | panic p s => exact ⟨f1, by rw [ho]; exact Outcome.noConfusion⟩
  | done v ok s =>
    obtain ⟨F2, h2⟩ := ck f1 v ok s ho
    refine ⟨max f1 F2, ?_⟩
    rw [hg f1 _ (Nat.le_max_left f1 F2) (by rw [ho]; exact Outcome.noConfusion), ho]
    have e : k (max f1 F2) v ok s = k F2 v ok s := hk v ok s F2 _ (Nat.le_max_right f1 F2) h2
    exact fun h => h2 (e ▸ h)

structure ConvCtx (E : Env) (rn : String → Bool) (I : PState → Prop) (M : PState → Nat) : Prop where
  nomemo : E.opts.memoize = false
  nobudget : E.opts.maxExpr = none
  icongr : ∀ (s s' : PState), I s → s'.pt = s.pt → s'.memo = s.memo → I s'
  mcongr : ∀ (s s' : PState), s'.pt.pos.off = s.pt.pos.off → s'.memo = s.memo → M s' = M s
  call : ∀ (f : Nat) (e : Expr) (s s1 : PState) (v : Val) (ok : Bool), I s → parseExpr E f e s = .done v ok s1 →
    I s1 ∧ (ok = true → s.pt.pos.off ≤ s1.pt.pos.off ∧ (s1.pt.pos.off = s.pt.pos.off → e.nul rn = true)) ∧
    (ok = false → s1.pt.pos.off = s.pt.pos.off) ∧ M s1 ≤ M s ∧ (M s1 = M s → s1.pt.pos.off = s.pt.pos.off)

section
variable {E : Env} {rn : String → Bool} {I : PState → Prop} {M : PState → Nat} (C : ConvCtx E rn I M)
variable (P : String → Prop)
include C

theorem wrapC (f : Nat) (e : Expr) (s : PState) : parseExprWrap E (parseExpr E f) e s = parseExpr E f e s :=
  wrap_eq C.nomemo e s

theorem seqC (n : Nat) (pt : Savepoint) (st : Store) (es : List Expr) :
    (∀ e ∈ es, ∀ s', I s' → M s' ≤ n → (M s' = n → ∀ m ∈ e.first rn, P m) → T E e s') →
    ∀ (s : PState) (acc : List Val), I s → M s ≤ n → (M s = n → ∀ m ∈ firstSeq rn es, P m) →
      ∃ F, parseSeq E (parseExpr E F) pt st es s acc ≠ .oof := by
  induction es with
  | nil => exact fun _ _ _ _ _ _ => ⟨0, Outcome.noConfusion⟩
  | cons e es ih =>
    intro hT s acc hi hrem hfirst
    simp only [parseSeq_cons, wrapC C]
    refine conv_bind (parseExpr_stable E e s)
      (fun v ok s1 => .ite ok (fun _ _ _ hle => seq_ext (parseExpr_mono E hle) pt st es s1 (v :: acc)) fun _ => .const _)
      (hT e List.mem_cons_self s hi hrem fun hn m hm => hfirst hn m (List.mem_append_left _ hm)) fun f v ok s1 ho => ?_
    cases ok with
    | false => exact ⟨0, Outcome.noConfusion⟩
    | true =>
      obtain ⟨hi1, hadv, _, hle, heq⟩ := C.call f e s s1 v true hi ho
      exact ih (fun e' he' => hT e' (List.mem_cons_of_mem _ he')) s1 (v :: acc) hi1 (Nat.le_trans hle hrem)
        fun hn m hm =>
          have hs : M s = n := Nat.le_antisymm hrem (hn ▸ hle)
          hfirst hs m (by simp only [firstSeq, (hadv rfl).2 (heq (hn.trans hs.symm)), if_true]; exact List.mem_append_right _ hm)

theorem choiceC (n : Nat) (line col : Nat) (alts : List Expr) :
    (∀ e ∈ alts, ∀ s', I s' → M s' ≤ n → (M s' = n → ∀ m ∈ e.first rn, P m) → T E e s') →
    ∀ (i : Nat) (s : PState), I s → M s ≤ n → (M s = n → ∀ m ∈ firstAny rn alts, P m) →
      ∃ F, parseChoice E (parseExpr E F) line col alts i s ≠ .oof := by
  induction alts with
  | nil => exact fun _ _ _ _ _ _ => ⟨0, Outcome.noConfusion⟩
  | cons a alts ih =>
    intro hT i s hi hrem hfirst
    have hip : I (pushV s) := C.icongr s _ hi rfl rfl
    have hmp : M (pushV s) = M s := C.mcongr s _ rfl rfl
    simp only [parseChoice_cons, wrapC C]
    refine conv_bind (parseExpr_stable E a (pushV s))
      (fun v ok s1 => .ite ok (fun _ => .const _) fun _ _ _ hle => choice_ext (parseExpr_mono E hle) line col alts (i + 1) _)
      (hT a List.mem_cons_self (pushV s) hip (hmp ▸ hrem) fun hn m hm => hfirst (hmp ▸ hn) m (List.mem_append_left _ hm))
      fun f v ok s1 ho => ?_
    cases ok with
    | true => exact ⟨0, Outcome.noConfusion⟩
    | false =>
      obtain ⟨hi1, _, _, hle, _⟩ := C.call f a (pushV s) s1 v false hip ho
      have hle : M (restoreState E (popV s1) s.state) ≤ M s := by rw [C.mcongr s1 _ (by simp) (by simp), ← hmp]; exact hle
      exact ih (fun e' he' => hT e' (List.mem_cons_of_mem _ he')) (i + 1) _
        (C.icongr s1 _ hi1 (by simp) (by simp)) (Nat.le_trans hle hrem)
        fun hn m hm => hfirst (Nat.le_antisymm hrem (hn ▸ hle)) m (List.mem_append_right _ hm)

/-- a repetition over a non-nullable body: every round consumes input, so the measure drops -/
theorem loopC (e : Expr) (hnn : e.nul rn = false) (n0 : Nat) (hT : ∀ s', I s' → M s' ≤ n0 → T E e s') :
    ∀ (r : Nat) (s : PState) (acc : List Val), I s → M s ≤ r → r ≤ n0 →
      ∃ F, parseLoop E (parseExpr E F) e F s acc ≠ .oof := by
  intro r
  induction r using Nat.strongRecOn with
  | _ r ih =>
    intro s acc hi hrem hr0
    have hip : I (pushV s) := C.icongr s _ hi rfl rfl
    have hmp : M (pushV s) = M s := C.mcongr s _ rfl rfl
    -- fuel `F + 1` for the calls and for this round, `F` rounds for the rest
    refine Exists.elim (?_ : ∃ F, parseLoop E (parseExpr E (F + 1)) e (F + 1) s acc ≠ .oof) fun F hF => ⟨F + 1, hF⟩
    simp only [parseLoop_succ, wrapC C]
    refine conv_bind (fun f F hle => parseExpr_stable E e (pushV s) _ _ (Nat.succ_le_succ hle))
      (fun v ok s1 => .ite ok (fun _ f F hle => loop_ext (parseExpr_mono E (Nat.succ_le_succ hle)) e f F (popV s1) (v :: acc) hle)
        fun _ => .const _)
      ((hT (pushV s) hip (hmp ▸ Nat.le_trans hrem hr0)).imp fun f hf => by rw [lift (Nat.le_succ f) rfl hf]; exact hf)
      fun f v ok s1 ho => ?_
    cases ok with
    | false => exact ⟨0, by simp only [Bool.false_eq_true, if_false]; split <;> exact Outcome.noConfusion⟩
    | true =>
      obtain ⟨hi1, hadv, _, hle, heq⟩ := C.call (f + 1) e (pushV s) s1 v true hip ho
      have hlt : M (popV s1) < M s := by
        rw [C.mcongr s1 (popV s1) rfl rfl, ← hmp]
        exact Nat.lt_of_le_of_ne hle fun he => Bool.noConfusion (hnn.symm.trans ((hadv rfl).2 (heq he)))
      obtain ⟨F2, h2⟩ := ih (M (popV s1)) (Nat.lt_of_lt_of_le hlt hrem) (popV s1) (v :: acc) (C.icongr s1 _ hi1 rfl rfl)
        (Nat.le_refl _) (Nat.le_trans (Nat.le_of_lt hlt) (Nat.le_trans hrem hr0))
      exact ⟨F2, by
        simp only [if_true]
        rw [loop_ext (parseExpr_mono E (Nat.le_succ F2)) e F2 F2 _ _ (Nat.le_refl _) h2]; exact h2⟩

/-- one sub-call followed by a continuation that never runs out of fuel -/
theorem oneC {e1 : Expr} {s1 : PState} (hT : T E e1 s1) (k : Val → Bool → PState → Outcome)
    (hk : ∀ v ok s2, k v ok s2 ≠ .oof) :
    ∃ F, (parseExprWrap E (parseExpr E F) e1 s1).bind k ≠ .oof := by
  obtain ⟨f1, h1⟩ := hT
  exact ⟨f1, by rw [wrapC C]; exact bind_ne_oof h1 (fun v ok s _ => hk v ok s)⟩

theorem T_of_bodyC {e : Expr} {s : PState} (hB : ∃ F, parseExprBody E (parseExpr E F) F e (bump s) ≠ .oof) : T E e s :=
  hB.elim fun F hF => ⟨F + 1, by rw [parseExpr_nobudget C.nobudget]; exact hF⟩

end

structure RuleCtx (E : Env) (rn : String → Bool) (I : PState → Prop) (M : PState → Nat) (rank : String → Nat)
    (L : String → Prop) : Prop extends ConvCtx E rn I M where
  shape : ∀ n r, E.findRule n = some r → r.expr.wfs rn = true
  ranked : ∀ n r, E.findRule n = some r → ∀ m ∈ r.expr.first rn, L m ∨ rank m < rank n
  plainRule : ∀ n r, E.findRule n = some r → ¬ L n → ∀ (rec : Expr → PState → Outcome) (k : Nat) (s : PState),
    parseRuleWrap E rec k r s = parseRule E rec r s
  leadRule : ∀ n r s, E.findRule n = some r → L n → I s →
    (∀ e' s', I s' → M s' < M s → e'.wfs rn = true → T E e' s') → ∃ F, parseRuleWrap E (parseExpr E F) F r s ≠ .oof

section
variable {E : Env} {rn : String → Bool} {I : PState → Prop} {M : PState → Nat} {rank : String → Nat} {L : String → Prop}
variable (R : RuleCtx E rn I M rank L)
include R

/-- a rule whose name is not in `L`: its body, then a continuation that cannot run out of fuel -/
theorem plainRule_conv {name : String} {r : Rule} (hfr : E.findRule name = some r) (hl : ¬ L name) (s : PState)
    (hT : T E r.expr (pushV { s with rstack := r :: s.rstack })) : ∃ F, parseRuleWrap E (parseExpr E F) F r s ≠ .oof :=
  hT.imp fun F hF => by
    rw [R.plainRule name r hfr hl, parseRule_eq, wrapC R.toConvCtx]
    exact bind_ne_oof hF fun _ _ _ _ => Outcome.noConfusion

/-- the triple induction: measure, rank bound of the rules outside `L` reachable at this measure, size -/
theorem term_gen : ∀ (n k sz : Nat) (e : Expr) (s : PState), I s → M s ≤ n → e.wfs rn = true → e.size ≤ sz →
    (M s = n → ∀ m ∈ e.first rn, ¬ L m → rank m < k) → T E e s := by
  have C := R.toConvCtx
  intro n
  induction n using Nat.strongRecOn with
  | _ n ihn =>
  intro k
  induction k using Nat.strongRecOn with
  | _ k ihk =>
  intro sz
  induction sz with
  | zero => intro e s _ _ _ hsz _; exact absurd (Nat.le_trans (size_pos e) hsz) (Nat.not_succ_le_zero 0)
  | succ sz ihsz =>
    intro e s hi hrem hwf hsz hfirst
    have anyT : ∀ e' s', I s' → M s' < n → e'.wfs rn = true → T E e' s' := fun e' s' hi' hlt hw' =>
      ihn (M s') hlt (bigK rank (e'.first rn)) e'.size e' s' hi' (Nat.le_refl _) hw' (Nat.le_refl _)
        (fun _ m hm _ => lt_bigK hm)
    by_cases hlt : M s < n
    · exact anyT e s hi hlt hwf
    have hn : M s = n := Nat.le_antisymm hrem (Nat.le_of_not_lt hlt)
    apply T_of_bodyC C
    have hib : I (bump s) := C.icongr s _ hi rfl rfl
    have hmb : M (bump s) = n := by rw [C.mcongr s (bump s) rfl rfl]; exact hn
    -- the states in which the one-argument forms run their argument: same position, same table
    have same : ∀ s' : PState, s'.pt = (bump s).pt → s'.memo = (bump s).memo → I s' ∧ M s' ≤ n := fun s' h1 h2 =>
      ⟨C.icongr _ _ hib h1 h2, Nat.le_of_eq ((C.mcongr (bump s) s' (by rw [h1]) h2).trans hmb)⟩
    -- the sub-expression of a one-argument form: smaller, with the same first set
    have arg : ∀ e1 : Expr, e1.wfs rn = true → e1.size + 1 ≤ sz + 1 → e1.first rn = e.first rn →
        ∀ s', I s' → M s' ≤ n → T E e1 s' := fun e1 hw1 hs1 hf1 s' hi' hr' =>
      ihsz e1 s' hi' hr' hw1 (Nat.le_of_succ_le_succ hs1) fun _ m hm => hfirst hn m (hf1 ▸ hm)
    cases e with
    | recovery | throw => cases hwf
    | andCode | notCode | stateCode | any | cls | lit => exact ⟨0, leaf_term _ _ _ _ trivial⟩
    | action id blk e1 =>
      dsimp only [parseExprBody, parseAction]
      apply oneC C (arg e1 hwf hsz rfl _ hib (Nat.le_of_eq hmb))
      intro v ok s2
      split
      · split <;> exact Outcome.noConfusion
      · exact Outcome.noConfusion
    | and _ e1 | not _ e1 | labeled _ _ e1 | zeroOrOne _ e1 =>
      dsimp only [parseExprBody, parseAnd, parseNot, parseLabeled, parseZeroOrOne]
      refine oneC C ?_ _ ?_
      · exact And.elim (arg e1 hwf hsz rfl _) (same _ rfl rfl)
      · exact fun _ _ _ => Outcome.noConfusion
    | choice id line col alts =>
      exact choiceC C (fun m => ¬ L m → rank m < k) n line col alts
        (fun e' he' s' hi' hr' hf' => ihsz e' s' hi' hr' (wfs_mem hwf he') (Nat.le_of_lt_succ (Nat.lt_of_lt_of_le (size_mem he') hsz)) hf')
        0 (bump s) hib (Nat.le_of_eq hmb) fun _ => hfirst hn
    | seq id es =>
      exact seqC C (fun m => ¬ L m → rank m < k) n _ _ es
        (fun e' he' s' hi' hr' hf' => ihsz e' s' hi' hr' (wfs_mem hwf he') (Nat.le_of_lt_succ (Nat.lt_of_lt_of_le (size_mem he') hsz)) hf')
        (bump s) [] hib (Nat.le_of_eq hmb) fun _ => hfirst hn
    | oneOrMore id e1 =>
      simp only [Expr.wfs, Bool.and_eq_true, Bool.not_eq_true'] at hwf
      exact loopC C e1 hwf.1 n (arg e1 hwf.2 hsz rfl) n (bump s) [] hib (Nat.le_of_eq hmb) (Nat.le_refl _)
    | zeroOrMore id e1 =>
      simp only [Expr.wfs, Bool.and_eq_true, Bool.not_eq_true'] at hwf
      dsimp only [parseExprBody, parseZeroOrMore]
      exact (loopC C e1 hwf.1 n (arg e1 hwf.2 hsz rfl) n (bump s) [] hib (Nat.le_of_eq hmb) (Nat.le_refl _)).imp fun F hF =>
        bind_ne_oof hF fun v ok s2 _ => by split <;> exact Outcome.noConfusion
    | ruleRef id name =>
      dsimp only [parseExprBody, parseRuleRef]
      by_cases hne : name = ""
      · exact ⟨0, by simp [hne]⟩
      · simp only [hne, if_false]
        cases hfr : E.findRule name with
        | none => exact ⟨0, by simp⟩
        | some r =>
          simp only []
          by_cases hl : L name
          · exact R.leadRule name r (bump s) hfr hl hib (fun e' s' hi' hlt hw' => anyT e' s' hi' (hmb ▸ hlt) hw')
          · have hs := same (pushV { bump s with rstack := r :: (bump s).rstack }) rfl rfl
            exact plainRule_conv R hfr hl (bump s)
              (ihk (rank name) (hfirst hn name (by simp [Expr.first]) hl) r.expr.size r.expr _ hs.1 hs.2
                (R.shape name r hfr) (Nat.le_refl _) (fun _ m hm hlm => (R.ranked name r hfr m hm).resolve_left hlm))

/-- every well-shaped expression, from every state of the invariant, evaluates at some finite depth -/
theorem terminates_gen (e : Expr) (s : PState) (hi : I s) (hwf : e.wfs rn = true) : T E e s :=
  term_gen R (M s) (bigK rank (e.first rn)) e.size e s hi (Nat.le_refl _) hwf (Nat.le_refl _) (fun _ _ hm _ => lt_bigK hm)

/-- a rule invocation from any state of the invariant -/
theorem ruleWrap_gen {name : String} {r : Rule} (hfr : E.findRule name = some r) (s : PState) (hi : I s) :
    ∃ F, parseRuleWrap E (parseExpr E F) F r s ≠ .oof := by
  by_cases hl : L name
  · exact R.leadRule name r s hfr hl hi (fun e' s' hi' _ hw' => terminates_gen R e' s' hi' hw')
  · exact plainRule_conv R hfr hl s
      (terminates_gen R r.expr _ (R.icongr s (pushV { s with rstack := r :: s.rstack }) hi rfl rfl) (R.shape name r hfr))

/-- `Parse` returns as soon as the start state satisfies the invariant -/
theorem parse_gen (hi : I (startState E)) : ∃ f, parse E f ≠ .oof := by
  cases he : entryRule E with
  | none => exact ⟨0, parse_ne_oof fun r hr => by rw [he] at hr; cases hr⟩
  | some r =>
    obtain ⟨n, hfr⟩ := entryRule_find he
    exact (ruleWrap_gen R hfr _ hi).imp fun F hF => parse_ne_oof fun r' hr' => by rw [he] at hr'; cases hr'; exact hF

end

end RT
end PV
