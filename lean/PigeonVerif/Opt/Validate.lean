/-
  A verified validator for the grammar optimizer: `validate g g' … = true` implies that every listed rule matches the
  same inputs, consuming the same prefix, in the grammar `g` and in the optimized grammar `g'` (`validate_sound`).

  The validator compares NORMAL FORMS (`Opt/Nf.lean`): both grammars are normalised with the same sound rewrites (rule
  references unfolded `k` levels for the rules selected by `inl`), and the normal forms of equally named rules must be
  syntactically equal. It is run by the C09 check on every (input, output) pair of the real `ast.Optimize`.
-/
import PigeonVerif.Opt.NfSound

namespace PV
namespace Opt

mutual
def beqOE : OE → OE → Bool
  | .lit a ic, .lit b ic' => a == b && ic == ic'
  | .cls c r n ic inv, .cls c' r' n' ic' inv' => c == c' && r == r' && n == n' && ic == ic' && inv == inv'
  | .any, .any => true
  | .seq a, .seq b => beqL a b
  | .choice a, .choice b => beqL a b
  | .ref a, .ref b => a == b
  | .act c e, .act c' e' => c == c' && beqOE e e'
  | .lab l e, .lab l' e' => l == l' && beqOE e e'
  | .andP e, .andP e' => beqOE e e'
  | .notP e, .notP e' => beqOE e e'
  | .andC c, .andC c' => c == c'
  | .notC c, .notC c' => c == c'
  | .stc c, .stc c' => c == c'
  | .opt e, .opt e' => beqOE e e'
  | .star e, .star e' => beqOE e e'
  | .plus e, .plus e' => beqOE e e'
  | .recov e r ls, .recov e' r' ls' => beqOE e e' && beqOE r r' && ls == ls'
  | .thr l, .thr l' => l == l'
  | _, _ => false
def beqL : List OE → List OE → Bool
  | [], [] => true
  | a :: as, b :: bs => beqOE a b && beqL as bs
  | _, _ => false
end

/- By the functional induction principle of `beqOE` / `beqL`: one case per equation, with the value that equation gives. -/
theorem beqOE_beqL_eq : (∀ a b, beqOE a b = true → a = b) ∧ (∀ a b, beqL a b = true → a = b) := by
  have and2 : ∀ {x y : Bool}, (x && y) = true → x = true ∧ y = true := Bool.and_eq_true_iff.mp
  apply beqOE.mutual_induct_unfolding (motive_1 := fun a b r => r = true → a = b) (motive_2 := fun a b r => r = true → a = b)
  · intro a ic b ic' h
    obtain ⟨h1, h2⟩ := and2 h
    rw [eq_of_beq h1, eq_of_beq h2]
  · intro c r n ic inv c' r' n' ic' inv' h
    obtain ⟨h, h5⟩ := and2 h
    obtain ⟨h, h4⟩ := and2 h
    obtain ⟨h, h3⟩ := and2 h
    obtain ⟨h1, h2⟩ := and2 h
    rw [eq_of_beq h1, eq_of_beq h2, eq_of_beq h3, eq_of_beq h4, eq_of_beq h5]
  · exact fun _ => rfl
  · exact fun a b ih h => congrArg _ (ih h)
  · exact fun a b ih h => congrArg _ (ih h)
  · exact fun a b h => congrArg _ (eq_of_beq h)
  · intro c e c' e' ih h
    obtain ⟨h1, h2⟩ := and2 h
    rw [eq_of_beq h1, ih h2]
  · intro l e l' e' ih h
    obtain ⟨h1, h2⟩ := and2 h
    rw [eq_of_beq h1, ih h2]
  · exact fun e e' ih h => congrArg _ (ih h)
  · exact fun e e' ih h => congrArg _ (ih h)
  · exact fun c c' h => congrArg _ (eq_of_beq h)
  · exact fun c c' h => congrArg _ (eq_of_beq h)
  · exact fun c c' h => congrArg _ (eq_of_beq h)
  · exact fun e e' ih h => congrArg _ (ih h)
  · exact fun e e' ih h => congrArg _ (ih h)
  · exact fun e e' ih h => congrArg _ (ih h)
  · intro e r ls e' r' ls' ihe ihr h
    obtain ⟨h, h3⟩ := and2 h
    obtain ⟨h1, h2⟩ := and2 h
    rw [ihe h1, ihr h2, eq_of_beq h3]
  · exact fun l l' h => congrArg _ (eq_of_beq h)
  · intros
    contradiction
  · exact fun _ => rfl
  · intro a as b bs iha ihas h
    obtain ⟨h1, h2⟩ := and2 h
    rw [iha h1, ihas h2]
  · intros
    contradiction

theorem beqOE_eq : ∀ (a b : OE), beqOE a b = true → a = b := beqOE_beqL_eq.1
theorem beqL_eq : ∀ (a b : List OE), beqL a b = true → a = b := beqOE_beqL_eq.2

mutual
/-- every rule referenced in the expression is in `names` -/
def refsIn (names : List String) : OE → Bool
  | .ref n => names.contains n
  | .seq es | .choice es => refsInL names es
  | .act _ e | .lab _ e | .andP e | .notP e | .opt e | .star e | .plus e => refsIn names e
  | .recov e r _ => refsIn names e && refsIn names r
  | _ => true
def refsInL (names : List String) : List OE → Bool
  | [] => true
  | e :: es => refsIn names e && refsInL names es
end

theorem refsInL_mem {names : List String} {es : List OE} (h : refsInL names es = true) : ∀ e ∈ es, refsIn names e = true := by
  induction es with
  | nil => exact fun _ he => nomatch he
  | cons x xs ih =>
    have hl : refsIn names x = true ∧ refsInL names xs = true := Bool.and_eq_true_iff.mp h
    intro e he
    rcases List.mem_cons.mp he with rfl | he
    · exact hl.1
    · exact ih hl.2 e he

theorem refsIn_children {names : List String} {e : OE} (he : refsIn names e = true) : ∀ c ∈ children e, refsIn names c = true := by
  fun_cases children e with
  | case1 es | case2 es => exact refsInL_mem (es := es) he
  | case10 e1 r ls =>
    have he : refsIn names e1 = true ∧ refsIn names r = true := Bool.and_eq_true_iff.mp he
    intro c hc
    rcases List.mem_cons.mp hc with rfl | hc
    · exact he.1
    · exact List.mem_singleton.mp hc ▸ he.2
  | case11 => exact fun _ hc => nomatch hc
  | _ =>
    intro c hc
    rw [List.mem_singleton.mp hc]
    exact he

section
variable (S : Sem) (g : Gram) (inl : String → Bool)

def ibK (k : Nat) : String → Option OE := fun n => if inl n then (find g n).map (nfK g inl k) else none

theorem nfK_succ (k : Nat) : nfK g inl (k + 1) = nfStep (ibK g inl k) := rfl

theorem ibK_some {k : Nat} {n : String} {b' : OE} (h : ibK g inl k n = some b') :
    ∃ b, find g n = some b ∧ b' = nfK g inl k b := by
  unfold ibK at h
  split at h
  · cases hf : find g n with
    | none => rw [hf] at h; cases h
    | some b => rw [hf] at h; exact ⟨b, rfl, by simpa using h.symm⟩
  · cases h

theorem nfK_sound : ∀ (k : Nat),
    (∀ f e i, den S g f e i ≠ .oof → den S g f (nfK g inl k e) i = den S g f e i) ∧
    (∀ e f i, den S g f (nfK g inl k e) i ≠ .oof → ∃ f', den S g f' e i = den S g f (nfK g inl k e) i) := by
  intro k
  induction k with
  | zero => exact ⟨nfStep_fwd (fun _ _ h => by cases h), nfStep_bwd (fun _ _ h => by cases h)⟩
  | succ k ih =>
    obtain ⟨ihf, ihb⟩ := ih
    have ha : InlFwd S g (ibK g inl k) := by
      intro n b' hb f i hne
      obtain ⟨b, hf, rfl⟩ := ibK_some g inl hb
      cases f with
      | zero => exact absurd (den_zero _ i) hne
      | succ f0 =>
        rw [den_ref S g f0 n b hf] at hne ⊢
        have h1 := ihf f0 b i hne
        exact den_lift S g (Nat.le_succ f0) h1 hne
    have hb : InlBwd S g (ibK g inl k) := by
      intro n b' hb f i hne
      obtain ⟨b, hf, rfl⟩ := ibK_some g inl hb
      obtain ⟨f', h'⟩ := ihb b f i hne
      exact ⟨f' + 1, by rw [den_ref S g f' n b hf, h']⟩
    exact ⟨nfStep_fwd ha, nfStep_bwd hb⟩

end

/-- the rules named in `names` exist in both grammars, have the same normal form, and their normal forms refer to
    rules in `names` only -/
def Matched (g g' : Gram) (inl inl' : String → Bool) (k : Nat) (names : List String) : Prop :=
  ∀ n ∈ names, ∃ b b', find g n = some b ∧ find g' n = some b' ∧ nfK g inl k b = nfK g' inl' k b' ∧
    refsIn names (nfK g inl k b) = true

theorem Matched.symm {g g' : Gram} {inl inl' : String → Bool} {k : Nat} {names : List String}
    (h : Matched g g' inl inl' k names) : Matched g' g inl' inl k names := by
  intro n hn
  obtain ⟨b, b', h1, h2, h3, h4⟩ := h n hn
  exact ⟨b', b, h2, h1, h3.symm, by rw [← h3]; exact h4⟩

theorem cross {S : Sem} {g g' : Gram} {inl inl' : String → Bool} {k : Nat} {names : List String}
    (hm : Matched g g' inl inl' k names) : ∀ (f : Nat) (e : OE), refsIn names e = true → ∀ (i : List Rune),
      den S g f e i ≠ .oof → ∃ f', den S g' f' e i = den S g f e i := by
  intro f
  induction f with
  | zero => exact fun e _ i hne => absurd (den_zero e i) hne
  | succ f ih =>
    intro e he i hne
    have := step_sub (S := S) (g := g) (g' := g') (rec := den S g f) (t := id) (k := f) e i
      (fun c hc => ih c (refsIn_children he c hc)) ?_ (by rw [mapCh_id]; exact hne)
    · rwa [mapCh_id] at this
    · rintro n rfl
      obtain ⟨b, b', h1, h2, h3, h4⟩ := hm n (List.contains_iff_mem.mp he)
      have hne : den S g (f + 1) (.ref n) i ≠ .oof := hne
      show ∃ F, _ = den S g (f + 1) (.ref n) i
      rw [den_ref S g f n b h1] at hne ⊢
      -- g: the body, then its normal form (same fuel); in g' (induction); back from the normal form to the body
      have hN := (nfK_sound S g inl k).1 f b i hne
      obtain ⟨f2, hc⟩ := ih (nfK g inl k b) h4 i (by rw [hN]; exact hne)
      rw [h3] at hc
      obtain ⟨f3, hb⟩ := (nfK_sound S g' inl' k).2 b' f2 i (by rw [hc, ← h3, hN]; exact hne)
      exact ⟨f3 + 1, by rw [den_ref S g' f3 n b' h2, hb, hc, ← h3, hN]⟩

/-- the rules `names` of `g` and `g'` have syntactically equal normal forms that only refer to rules in `names` -/
def validate (g g' : Gram) (inl inl' : String → Bool) (k : Nat) (names : List String) : Bool :=
  names.all fun n =>
    match find g n, find g' n with
    | some b, some b' => beqOE (nfK g inl k b) (nfK g' inl' k b') && refsIn names (nfK g inl k b)
    | _, _ => false

theorem validate_matched {g g' : Gram} {inl inl' : String → Bool} {k : Nat} {names : List String}
    (h : validate g g' inl inl' k names = true) : Matched g g' inl inl' k names := by
  intro n hn
  have := List.all_eq_true.mp h n hn
  split at this
  · rename_i b b' h1 h2
    obtain ⟨h3, h4⟩ := Bool.and_eq_true_iff.mp this
    exact ⟨b, b', h1, h2, beqOE_eq _ _ h3, h4⟩
  · cases this

theorem validate_sound_expr (S : Sem) {g g' : Gram} {inl inl' : String → Bool} {k : Nat} {names : List String}
    (h : validate g g' inl inl' k names = true) (e : OE) (he : refsIn names e = true) (i : List Rune) (r : Res) (hr : r ≠ .oof) :
    (∃ f, den S g f e i = r) ↔ (∃ f, den S g' f e i = r) := by
  have hm := validate_matched h
  constructor <;> rintro ⟨f, rfl⟩
  · exact cross hm f e he i hr
  · exact cross hm.symm f e he i hr

/-- **The validator is sound.** If it accepts, every rule in `names` matches, in the optimized grammar `g'`, exactly the
    inputs it matches in `g`, with the same outcome (failure, or success with the same remaining input) — for every case
    folding, every membership oracle for ranges and Unicode classes, every code-predicate oracle and every input. -/
theorem validate_sound (S : Sem) {g g' : Gram} {inl inl' : String → Bool} {k : Nat} {names : List String}
    (h : validate g g' inl inl' k names = true) (n : String) (hn : n ∈ names) (i : List Rune) (r : Res) (hr : r ≠ .oof) :
    (∃ f, den S g f (.ref n) i = r) ↔ (∃ f, den S g' f (.ref n) i = r) :=
  validate_sound_expr S h (.ref n) (List.contains_iff_mem.mpr hn) i r hr

end Opt
end PV
