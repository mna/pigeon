/-
  The grammar optimizer (`ast.Optimize`, -optimize-grammar): syntax of grammars as the optimizer sees them, and their
  RECOGNITION semantics (which inputs an expression matches and how much it consumes), by depth fuel.

  Not in this semantics: values, label scopes and the arguments of code blocks (what actions see is compared by the
  translation-validation stream `pvopt` on the real optimizer's output). Code predicates are opaque oracles of the
  code block and the remaining input; action, label and state blocks do not influence matching.
-/
namespace PV
namespace Opt

abbrev Rune := Nat

inductive OE where
  | lit (val : List Rune) (ic : Bool)
  | cls (chars : List Rune) (ranges : List (Rune × Rune)) (classes : List String) (ic inv : Bool)
  | any
  | seq (es : List OE)
  | choice (es : List OE)
  | ref (name : String)
  | act (code : Nat) (e : OE)
  | lab (label : String) (e : OE)
  | andP (e : OE)
  | notP (e : OE)
  | andC (code : Nat)
  | notC (code : Nat)
  | stc (code : Nat)
  | opt (e : OE)
  | star (e : OE)
  | plus (e : OE)
  | recov (e r : OE) (labels : List String)
  | thr (label : String)
deriving Inhabited, Repr

abbrev Gram := List (String × OE)

def find (g : Gram) (n : String) : Option OE := (g.find? (fun p => p.1 == n)).map (·.2)

inductive Res where
  | oof
  | fail
  | ok (rest : List Rune)
deriving Inhabited, DecidableEq, Repr

/-- what the semantics is parametric in: case folding, membership of a rune in a range / a Unicode class, and the
    outcome of a code predicate (a function of the code block and the remaining input) -/
structure Sem where
  fold : Rune → Rune
  inRange : Bool → Rune × Rune → Rune → Bool
  inClass : String → Rune → Bool
  ora : Nat → List Rune → Bool

section
variable (S : Sem)

def litStep (ic : Bool) (c r : Rune) : Bool := if ic then S.fold r == S.fold c else r == c

def litD (ic : Bool) : List Rune → List Rune → Res
  | [], i => .ok i
  | _ :: _, [] => .fail
  | c :: cs, r :: rest => if litStep S ic c r then litD ic cs rest else .fail

def charMem (ic : Bool) (chars : List Rune) (r : Rune) : Bool := chars.any (fun c => litStep S ic c r)

def clsMem (chars : List Rune) (ranges : List (Rune × Rune)) (classes : List String) (ic : Bool) (r : Rune) : Bool :=
  charMem S ic chars r || ranges.any (fun p => S.inRange ic p r) || classes.any (fun n => S.inClass n (if ic then S.fold r else r))

def clsD (chars : List Rune) (ranges : List (Rune × Rune)) (classes : List String) (ic inv : Bool) : List Rune → Res
  | [] => .fail
  | r :: rest => if clsMem S chars ranges classes ic r != inv then .ok rest else .fail

variable (rec : OE → List Rune → Res)

def seqD : List OE → List Rune → Res
  | [], i => .ok i
  | e :: es, i => match rec e i with
    | .ok j => seqD es j
    | r => r

def choiceD : List OE → List Rune → Res
  | [], _ => .fail
  | e :: es, i => match rec e i with
    | .fail => choiceD es i
    | r => r

/-- greedy repetition (zero or more) -/
def loopD (e : OE) : Nat → List Rune → Res
  | 0, _ => .oof
  | k + 1, i => match rec e i with
    | .ok j => loopD e k j
    | .fail => .ok i
    | .oof => .oof

def step (g : Gram) (k : Nat) : OE → List Rune → Res
  | .lit v ic, i => litD S ic v i
  | .cls cs rs ns ic inv, i => clsD S cs rs ns ic inv i
  | .any, i => match i with
    | [] => .fail
    | _ :: rest => .ok rest
  | .seq es, i => seqD rec es i
  | .choice es, i => choiceD rec es i
  | .ref n, i => match find g n with
    | none => .fail
    | some b => rec b i
  | .act _ e, i => rec e i
  | .lab _ e, i => rec e i
  | .andP e, i => match rec e i with
    | .ok _ => .ok i
    | r => r
  | .notP e, i => match rec e i with
    | .ok _ => .fail
    | .fail => .ok i
    | .oof => .oof
  | .andC c, i => if S.ora c i then .ok i else .fail
  | .notC c, i => if S.ora c i then .fail else .ok i
  | .stc _, i => .ok i
  | .opt e, i => match rec e i with
    | .fail => .ok i
    | r => r
  | .star e, i => loopD rec e k i
  | .plus e, i => match rec e i with
    | .ok j => loopD rec e k j
    | r => r
  | .recov e _ _, i => rec e i   -- throw / recover: outside the theorem (hypothesis `noTR`)
  | .thr _, _ => .fail

end

/-- the recognition semantics, by depth fuel -/
def den (S : Sem) (g : Gram) : Nat → OE → List Rune → Res
  | 0, _, _ => .oof
  | f + 1, e, i => step S (den S g f) g f e i

def children : OE → List OE
  | .seq es | .choice es => es
  | .act _ e | .lab _ e | .andP e | .notP e | .opt e | .star e | .plus e => [e]
  | .recov e r _ => [e, r]
  | _ => []

/-- `t` applied to the immediate sub-expressions -/
def mapCh (t : OE → OE) : OE → OE
  | .seq es => .seq (es.map t)
  | .choice es => .choice (es.map t)
  | .act c e => .act c (t e)
  | .lab l e => .lab l (t e)
  | .andP e => .andP (t e)
  | .notP e => .notP (t e)
  | .opt e => .opt (t e)
  | .star e => .star (t e)
  | .plus e => .plus (t e)
  | .recov e r ls => .recov (t e) (t r) ls
  | e => e

theorem mapCh_id (e : OE) : mapCh id e = e := by
  cases e with
  | seq es | choice es => exact congrArg _ (List.map_id es)
  | _ => rfl

/-- go on with `k` after a success -/
def thenR (k : List Rune → Res) : Res → Res
  | .ok j => k j
  | r => r
/-- answer `k` after a failure -/
def elseR (k : Res) : Res → Res
  | .fail => k
  | r => r
def onR (ks : List Rune → Res) (kf : Res) : Res → Res
  | .ok j => ks j
  | .fail => kf
  | .oof => .oof

theorem strict_ne {φ : Res → Res} (hφ : φ .oof = .oof) {x : Res} (hne : φ x ≠ .oof) : x ≠ .oof := fun h => hne (h ▸ hφ)

theorem litD_cons (S : Sem) (ic : Bool) (c : Rune) (cs : List Rune) (r : Rune) (rest : List Rune) :
    litD S ic (c :: cs) (r :: rest) = if litStep S ic c r then litD S ic cs rest else .fail := rfl
theorem clsD_cons (S : Sem) (cs : List Rune) (rs : List (Rune × Rune)) (ns : List String) (ic inv : Bool) (r : Rune)
    (rest : List Rune) : clsD S cs rs ns ic inv (r :: rest) = if clsMem S cs rs ns ic r != inv then .ok rest else .fail := rfl

theorem seqD_cons (rec : OE → List Rune → Res) (e : OE) (es : List OE) (i : List Rune) :
    seqD rec (e :: es) i = match rec e i with
      | .ok j => seqD rec es j
      | r => r := rfl
theorem choiceD_cons (rec : OE → List Rune → Res) (e : OE) (es : List OE) (i : List Rune) :
    choiceD rec (e :: es) i = match rec e i with
      | .fail => choiceD rec es i
      | r => r := rfl

theorem loopD_succ (rec : OE → List Rune → Res) (e : OE) (k : Nat) (i : List Rune) :
    loopD rec e (k + 1) i = match rec e i with
      | .ok j => loopD rec e k j
      | .fail => .ok i
      | .oof => .oof := rfl

theorem step_ref (S : Sem) (rec : OE → List Rune → Res) (g : Gram) (k : Nat) (n : String) (i : List Rune) :
    step S rec g k (.ref n) i = match find g n with
      | none => .fail
      | some b => rec b i := rfl

section
variable {S : Sem} {g : Gram}

theorem den_zero (e : OE) (i : List Rune) : den S g 0 e i = .oof := rfl

end

theorem den_ref (S : Sem) (g : Gram) (f : Nat) (n : String) (b : OE) (hf : find g n = some b) (i : List Rune) :
    den S g (f + 1) (.ref n) i = den S g f b i := by
  show (match find g n with | none => Res.fail | some b => den S g f b i) = _
  rw [hf]

/-- a sequence goes on after a success, a choice after a failure -/
inductive Kind | sq | ch

def Kind.next : Kind → List Rune → Res → Option (List Rune)
  | .sq, _, .ok j => some j
  | .ch, i, .fail => some i
  | _, _, _ => none

def chainD (rec : OE → List Rune → Res) : Kind → List OE → List Rune → Res
  | .sq => seqD rec
  | .ch => choiceD rec

theorem chainD_cons (rec : OE → List Rune → Res) (κ : Kind) (e : OE) (es : List OE) (i : List Rune) :
    chainD rec κ (e :: es) i = match κ.next i (rec e i) with
      | some j => chainD rec κ es j
      | none => rec e i := by
  cases κ
  · exact (seqD_cons rec e es i).trans (by cases rec e i <;> rfl)
  · exact (choiceD_cons rec e es i).trans (by cases rec e i <;> rfl)

/-- from some fuel on -/
def Ev (P : Nat → Prop) : Prop := ∃ f, ∀ F, f ≤ F → P F

theorem Ev.pure {P : Nat → Prop} (h : ∀ F, P F) : Ev P := ⟨0, fun F _ => h F⟩
theorem Ev.some {P : Nat → Prop} : Ev P → ∃ F, P F
  | ⟨f, h⟩ => ⟨f, h f (Nat.le_refl f)⟩
theorem Ev.imp {P Q : Nat → Prop} (h : ∀ F, P F → Q F) : Ev P → Ev Q
  | ⟨f, hf⟩ => ⟨f, fun F hF => h F (hf F hF)⟩
/-- the only place where fuels of sub-runs are joined -/
theorem Ev.and {P Q : Nat → Prop} : Ev P → Ev Q → Ev fun F => P F ∧ Q F
  | ⟨f1, h1⟩, ⟨f2, h2⟩ => ⟨max f1 f2, fun F hF =>
    ⟨h1 F (Nat.le_trans (Nat.le_max_left f1 f2) hF), h2 F (Nat.le_trans (Nat.le_max_right f1 f2) hF)⟩⟩

section
variable {S : Sem} {T : Nat → OE → List Rune → Res} {s : OE → List Rune → Res} {a b : OE → OE}

/- `T` is a family of evaluators indexed by fuel. A family that does not depend on the fuel gives the statements "with the
   same fuel"; for `den` see `den_ev`. -/
theorem chain_ev (κ : Kind) (es : List OE)
    (h : ∀ e ∈ es, ∀ i, s (a e) i ≠ .oof → Ev fun F => T F (b e) i = s (a e) i) (i : List Rune)
    (hne : chainD s κ (es.map a) i ≠ .oof) : Ev fun F => chainD (T F) κ (es.map b) i = chainD s κ (es.map a) i := by
  induction es generalizing i with
  | nil => exact .pure fun _ => by cases κ <;> rfl
  | cons e es ih =>
    rw [List.map_cons, chainD_cons] at hne
    rw [List.map_cons, List.map_cons, chainD_cons]
    have h1 := h e List.mem_cons_self i fun hr => by rw [hr] at hne; cases κ <;> exact hne rfl
    cases hn : κ.next i (s (a e) i) with
    | none => exact h1.imp fun F h1 => by rw [chainD_cons, h1, hn]
    | some j =>
      rw [hn] at hne
      refine (h1.and (ih (fun e' he' => h e' (List.mem_cons_of_mem _ he')) j hne)).imp fun F hF => ?_
      rw [chainD_cons, hF.1, hn]
      exact hF.2

theorem loop_ev {e : OE} (h : ∀ i, s (a e) i ≠ .oof → Ev fun F => T F (b e) i = s (a e) i) (k : Nat) (i : List Rune)
    (hne : loopD s (a e) k i ≠ .oof) : Ev fun F => ∀ d, loopD (T F) (b e) (k + d) i = loopD s (a e) k i := by
  induction k generalizing i with
  | zero => exact absurd rfl hne
  | succ k ih =>
    simp only [Nat.add_right_comm k 1, loopD_succ] at hne ⊢
    have h1 := h i (strict_ne (φ := onR (loopD s (a e) k) (.ok i)) rfl hne)
    cases hr : s (a e) i with
    | oof => rw [hr] at hne; exact absurd rfl hne
    | fail => exact h1.imp fun F h1 d => by rw [h1, hr]
    | ok j =>
      rw [hr] at hne
      refine (h1.and (ih j hne)).imp fun F hF d => ?_
      rw [hF.1, hr]
      exact hF.2 d

/-- whatever one step over `s` answers on `mapCh a e`, one step over `T F` answers on `mapCh b e` from some `F` on, provided
    this holds of each child (a reference has no children: it is the caller's business); the loops may run `d F` rounds more -/
theorem step_ev {g g' : Gram} {k : Nat} {d : Nat → Nat} (e : OE) (i : List Rune)
    (h : ∀ c ∈ children e, ∀ i, s (a c) i ≠ .oof → Ev fun F => T F (b c) i = s (a c) i)
    (href : ∀ n, e = .ref n → Ev fun F => step S (T F) g' (k + d F) e i = step S s g k e i)
    (hne : step S s g k (mapCh a e) i ≠ .oof) :
    Ev fun F => step S (T F) g' (k + d F) (mapCh b e) i = step S s g k (mapCh a e) i := by
  have one : ∀ {e1 : OE}, e1 ∈ [e1] := List.mem_singleton_self _
  have wrap : ∀ {e1 : OE} (φ : Res → Res), φ .oof = .oof → e1 ∈ children e → φ (s (a e1) i) ≠ .oof →
      Ev fun F => φ (T F (b e1) i) = φ (s (a e1) i) := fun φ hφ hc hn =>
    (h _ hc i (strict_ne hφ hn)).imp fun _ hf => congrArg φ hf
  cases e with
  | seq es => exact chain_ev .sq es h i hne
  | choice es => exact chain_ev .ch es h i hne
  | star e1 => exact (loop_ev (h e1 one) k i hne).imp fun F h1 => h1 (d F)
  | ref n => exact href n rfl
  | act c e1 => exact wrap id rfl one hne
  | lab l e1 => exact wrap id rfl one hne
  | recov e1 r ls => exact wrap id rfl (.head _) hne
  | andP e1 => exact wrap (thenR fun _ => .ok i) rfl one hne
  | notP e1 => exact wrap (onR (fun _ => .fail) (.ok i)) rfl one hne
  | opt e1 => exact wrap (elseR (.ok i)) rfl one hne
  | plus e1 =>
    have hne0 : thenR (loopD s (a e1) k) (s (a e1) i) ≠ .oof := hne
    show Ev fun F => thenR (loopD (T F) (b e1) (k + d F)) (T F (b e1) i) = thenR (loopD s (a e1) k) (s (a e1) i)
    have h1 := h e1 one i (strict_ne (φ := thenR (loopD s (a e1) k)) rfl hne0)
    cases hr : s (a e1) i with
    | oof => rw [hr] at hne0; exact absurd rfl hne0
    | fail => exact h1.imp fun F h1 => by rw [h1, hr]; rfl
    | ok j =>
      rw [hr] at hne0
      refine (h1.and (loop_ev (h e1 one) k j hne0)).imp fun F hF => ?_
      rw [hF.1, hr]
      exact hF.2 (d F)
  | _ => exact .pure fun _ => rfl

end

/-- `step_ev` with the same fuel: the family does not depend on it -/
theorem step_map (S : Sem) (g : Gram) {rec rec' : OE → List Rune → Res} {t : OE → OE} {k d : Nat} (e : OE)
    (i : List Rune) (h : ∀ c ∈ children e, ∀ i, rec c i ≠ .oof → rec' (t c) i = rec c i)
    (href : ∀ n, e = .ref n → step S rec' g (k + d) e i = step S rec g k e i) (hne : step S rec g k e i ≠ .oof) :
    step S rec' g (k + d) (mapCh t e) i = step S rec g k e i := by
  obtain ⟨_, hF⟩ := (step_ev (T := fun _ => rec') (a := id) (b := t) (d := fun _ => d) e i
    (fun c hc i hn => .pure fun _ => h c hc i hn) (fun n hn => .pure fun _ => href n hn) (by rwa [mapCh_id])).some
  rwa [mapCh_id] at hF

def Ext (r r' : OE → List Rune → Res) : Prop := ∀ e i, r e i ≠ .oof → r' e i = r e i

theorem chainD_ext {r r' : OE → List Rune → Res} (h : Ext r r') (κ : Kind) (es : List OE) (i : List Rune)
    (hne : chainD r κ es i ≠ .oof) : chainD r' κ es i = chainD r κ es i := by
  obtain ⟨_, hF⟩ := (chain_ev (T := fun _ => r') (a := id) (b := id) κ es (fun e _ i hn => .pure fun _ => h e i hn) i
    (by rwa [List.map_id])).some
  rwa [List.map_id] at hF

theorem seqD_ext {r r' : OE → List Rune → Res} (h : Ext r r') (es : List OE) (i : List Rune)
    (hne : seqD r es i ≠ .oof) : seqD r' es i = seqD r es i :=
  chainD_ext h .sq es i hne

theorem choiceD_ext {r r' : OE → List Rune → Res} (h : Ext r r') (es : List OE) (i : List Rune)
    (hne : choiceD r es i ≠ .oof) : choiceD r' es i = choiceD r es i :=
  chainD_ext h .ch es i hne

theorem loopD_ext {r r' : OE → List Rune → Res} (h : Ext r r') (e : OE) (k k' : Nat) (i : List Rune) (hk : k ≤ k')
    (hne : loopD r e k i ≠ .oof) : loopD r' e k' i = loopD r e k i := by
  obtain ⟨d, rfl⟩ := Nat.exists_eq_add_of_le hk
  obtain ⟨_, hF⟩ := (loop_ev (T := fun _ => r') (a := id) (b := id) (fun i hn => .pure fun _ => h e i hn) k i hne).some
  exact hF d

theorem step_ext (S : Sem) (g : Gram) {r r' : OE → List Rune → Res} (h : Ext r r') {k : Nat} (d : Nat) (e : OE)
    (i : List Rune) (hne : step S r g k e i ≠ .oof) : step S r' g (k + d) e i = step S r g k e i := by
  have := step_map S g (t := id) (d := d) e i (fun c _ => h c) ?_ hne
  · rwa [mapCh_id] at this
  · rintro n rfl
    simp only [step_ref] at hne ⊢
    cases hf : find g n with
    | none => rfl
    | some b => rw [hf] at hne; exact h b i hne

theorem den_mono (S : Sem) (g : Gram) : ∀ {f f' : Nat}, f ≤ f' → Ext (den S g f) (den S g f')
  | 0, _, _ => fun e i hne => absurd (den_zero e i) hne
  | f + 1, f' + 1, hf => by
    obtain ⟨d, rfl⟩ := Nat.exists_eq_add_of_le (Nat.le_of_succ_le_succ hf)
    exact step_ext S g (den_mono S g (Nat.le_add_right f d)) d

theorem den_succ_ext (S : Sem) (g : Gram) (f : Nat) : Ext (den S g f) (den S g (f + 1)) := den_mono S g (Nat.le_succ f)

theorem den_lift (S : Sem) (g : Gram) {f F : Nat} {e : OE} {i : List Rune} {r : Res} (hle : f ≤ F) (h : den S g f e i = r)
    (hne : r ≠ .oof) : den S g F e i = r := by
  rw [den_mono S g hle e i (by rw [h]; exact hne), h]

theorem den_ev (S : Sem) (g : Gram) {e : OE} {i : List Rune} {r : Res} (hne : r ≠ .oof) : (∃ f, den S g f e i = r) →
    Ev fun F => den S g F e i = r
  | ⟨f, hf⟩ => ⟨f, fun _ hF => den_lift S g hF hf hne⟩

/-- `step_ev` with some fuel, in `g'`: the family is `den` with `k` more fuel, which gives the loops their `k` rounds from the start -/
theorem step_sub {S : Sem} {g g' : Gram} {rec : OE → List Rune → Res} {t : OE → OE} {k : Nat} (e : OE) (i : List Rune)
    (h : ∀ c ∈ children e, ∀ i, rec (t c) i ≠ .oof → ∃ f, den S g' f c i = rec (t c) i)
    (href : ∀ n, e = .ref n → ∃ F, den S g' F e i = step S rec g k e i) (hne : step S rec g k (mapCh t e) i ≠ .oof) :
    ∃ F, den S g' F e i = step S rec g k (mapCh t e) i := by
  have shift : ∀ {P : Nat → Prop} (m : Nat), Ev P → Ev fun F => P (k + F + m) := fun m ⟨f, hf⟩ =>
    ⟨f, fun F hF => hf _ (Nat.le_add_right_of_le (Nat.le_add_left_of_le hF))⟩
  obtain ⟨F, hF⟩ := (step_ev (T := fun F => den S g' (k + F)) (a := t) (b := id) (d := id) e i
    (fun c hc i hn => shift 0 (den_ev S g' hn (h c hc i hn)))
    (fun n hn => shift 1 (den_ev S g' (by subst hn; exact hne) (href n hn))) hne).some
  rw [mapCh_id] at hF
  exact ⟨k + F + 1, hF⟩

theorem childInd {P : OE → Prop} (h : ∀ e, (∀ c ∈ children e, P c) → P e) (e : OE) : P e := by
  induction e using OE.rec (motive_2 := fun es => ∀ c ∈ es, P c) with
  | seq es ih | choice es ih => exact h _ ih
  | act _ e ih | lab _ e ih | andP e ih | notP e ih | opt e ih | star e ih | plus e ih =>
    exact h _ fun c hc => List.mem_singleton.mp hc ▸ ih
  | recov e r _ ihe ihr =>
    refine h _ fun c hc => ?_
    rcases List.mem_cons.mp hc with rfl | hc
    · exact ihe
    · exact List.mem_singleton.mp hc ▸ ihr
  | nil => exact nomatch ‹_ ∈ []›
  | cons e es ihe ihes =>
    rcases List.mem_cons.mp ‹_ ∈ e :: es› with rfl | hc
    · exact ihe
    · exact ihes _ hc
  | _ => exact h _ fun _ hc => nomatch hc

end Opt
end PV
