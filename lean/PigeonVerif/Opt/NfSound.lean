/-
  Soundness of the normal form: an expression and its normal form match the same inputs (in the same grammar).
  Forward (`nfStep_fwd`): with the SAME fuel. Backward (`nfStep_bwd`): with some fuel.
-/
import PigeonVerif.Opt.Nf

namespace PV
namespace Opt

section sort
variable {α : Type}

theorem mem_insertBy (le : α → α → Bool) (x y : α) (l : List α) : y ∈ insertBy le x l ↔ y = x ∨ y ∈ l := by
  induction l with
  | nil => exact List.mem_cons
  | cons z zs ih =>
    show y ∈ (if le x z then _ else _) ↔ _
    split
    · exact List.mem_cons
    · rw [List.mem_cons, ih, List.mem_cons]
      exact or_left_comm

theorem mem_sortBy (le : α → α → Bool) (y : α) (l : List α) : y ∈ sortBy le l ↔ y ∈ l := by
  induction l with
  | nil => exact Iff.rfl
  | cons x xs ih => exact (mem_insertBy le x y _).trans ((or_congr_right ih).trans List.mem_cons.symm)

theorem mem_dedupL [BEq α] [LawfulBEq α] (y : α) (l : List α) : y ∈ dedupL l ↔ y ∈ l := by
  induction l with
  | nil => exact Iff.rfl
  | cons x xs ih =>
    show y ∈ (if xs.contains x then _ else _) ↔ _
    rw [List.mem_cons]
    by_cases h : xs.contains x
    · rw [if_pos h, ih]
      exact ⟨.inr, fun h1 => h1.elim (fun e => e ▸ List.contains_iff_mem.mp h) id⟩
    · rw [if_neg h, List.mem_cons, ih]

theorem any_canon [BEq α] [LawfulBEq α] (le : α → α → Bool) (p : α → Bool) (l : List α) :
    (sortBy le (dedupL l)).any p = l.any p := by
  rw [Bool.eq_iff_iff]
  simp only [List.any_eq_true, mem_sortBy, mem_dedupL]

end sort

section
variable (S : Sem) (g : Gram)

theorem den_canonCls (cs : List Rune) (rs : List (Rune × Rune)) (ns : List String) (ic inv : Bool) (f : Nat) (i : List Rune) :
    den S g f (canonCls cs rs ns ic inv) i = den S g f (.cls cs rs ns ic inv) i := by
  cases f with
  | zero => rfl
  | succ f =>
    show clsD S _ _ _ ic inv i = clsD S cs rs ns ic inv i
    cases i with
    | nil => rfl
    | cons r rest =>
      rw [clsD_cons, clsD_cons]
      unfold clsMem charMem
      rw [any_canon, any_canon, any_canon]

variable {S g}

theorem seqD_append (rec : OE → List Rune → Res) (a b : List OE) (i : List Rune) :
    seqD rec (a ++ b) i = match seqD rec a i with
      | .ok j => seqD rec b j
      | r => r := by
  induction a generalizing i with
  | nil => rfl
  | cons x a ih =>
    rw [List.cons_append, seqD_cons, seqD_cons]
    cases rec x i with
    | ok j => exact ih j
    | _ => rfl

theorem choiceD_append (rec : OE → List Rune → Res) (a b : List OE) (i : List Rune) :
    choiceD rec (a ++ b) i = match choiceD rec a i with
      | .fail => choiceD rec b i
      | r => r := by
  induction a with
  | nil => rfl
  | cons x a ih =>
    rw [List.cons_append, choiceD_cons, choiceD_cons]
    cases rec x i with
    | fail => exact ih
    | _ => rfl

theorem nfStepL_eq_map (ib : String → Option OE) : ∀ (es : List OE), nfStepL ib es = es.map (nfStep ib)
  | [] => rfl
  | e :: es => congrArg (nfStep ib e :: ·) (nfStepL_eq_map ib es)

end

section
variable {S : Sem} {g : Gram}

/-! Splicing nested sequences in is an EQUATION once the nested sequence is evaluated in place (`inSeq`); both
    directions are then monotonicity of `seqD` (`seqD_ext`) along `den f ⊑ inSeq (den f) ⊑ den (f + 1)`. -/

theorem seqD_one (rec : OE → List Rune → Res) (x : OE) (i : List Rune) : seqD rec [x] i = rec x i := by
  rw [seqD_cons]; cases rec x i <;> rfl

/-- a nested sequence evaluated in place -/
def inSeq (rec : OE → List Rune → Res) : OE → List Rune → Res
  | .seq ys, i => seqD rec ys i
  | e, i => rec e i

theorem flatSeq_eq (rec : OE → List Rune → Res) (xs : List OE) : ∀ (i : List Rune),
    seqD rec (flatSeq xs) i = seqD (inSeq rec) xs i := by
  fun_induction flatSeq xs with
  | case1 => exact fun _ => rfl
  | case2 ys rest ih =>
    intro i
    rw [seqD_append, seqD_cons, inSeq.eq_1]
    cases seqD rec ys i with
    | ok j => exact ih j
    | _ => rfl
  | case3 x rest hx ih =>
    intro i
    rw [seqD_cons, seqD_cons, inSeq.eq_2 rec x i hx]
    cases rec x i with
    | ok j => exact ih j
    | _ => rfl

theorem den_le_inSeq (f : Nat) : Ext (den S g f) (inSeq (den S g f)) := by
  intro e i hne
  fun_cases inSeq (den S g f) e i
  · cases f with
    | zero => exact absurd (den_zero _ i) hne
    | succ f => exact seqD_ext (den_succ_ext S g f) _ i hne
  · rfl

theorem inSeq_le_den (f : Nat) : Ext (inSeq (den S g f)) (den S g (f + 1)) := by
  intro e i
  fun_cases inSeq (den S g f) e i
  · exact fun _ => rfl
  · exact den_succ_ext S g f _ i

theorem flatSeq_fwd (f : Nat) (xs : List OE) (i : List Rune) (hne : seqD (den S g f) xs i ≠ .oof) :
    seqD (den S g f) (flatSeq xs) i = seqD (den S g f) xs i := by
  rw [flatSeq_eq]; exact seqD_ext (den_le_inSeq f) xs i hne

theorem flatSeq_bwd (f : Nat) (xs : List OE) (i : List Rune) (hne : seqD (den S g f) (flatSeq xs) i ≠ .oof) :
    seqD (den S g (f + 1)) xs i = seqD (den S g f) (flatSeq xs) i := by
  rw [flatSeq_eq] at hne ⊢; exact seqD_ext (inSeq_le_den f) xs i hne


theorem choiceD_one (rec : OE → List Rune → Res) (x : OE) (i : List Rune) : choiceD rec [x] i = rec x i := by
  rw [choiceD_cons]; cases rec x i <;> rfl

/-- a nested choice evaluated in place -/
def inCh (rec : OE → List Rune → Res) : OE → List Rune → Res
  | .choice ys, i => choiceD rec ys i
  | e, i => rec e i

theorem flatCh_eq (rec : OE → List Rune → Res) (xs : List OE) (i : List Rune) :
    choiceD rec (flatCh xs) i = choiceD (inCh rec) xs i := by
  fun_induction flatCh xs with
  | case1 => rfl
  | case2 ys rest ih => rw [choiceD_append, choiceD_cons, inCh.eq_1, ih]; rfl
  | case3 x rest hx ih => rw [choiceD_cons, choiceD_cons, inCh.eq_2 rec x i hx, ih]

theorem den_le_inCh (f : Nat) : Ext (den S g f) (inCh (den S g f)) := by
  intro e i hne
  fun_cases inCh (den S g f) e i
  · cases f with
    | zero => exact absurd (den_zero _ i) hne
    | succ f => exact choiceD_ext (den_succ_ext S g f) _ i hne
  · rfl

theorem inCh_le_den (f : Nat) : Ext (inCh (den S g f)) (den S g (f + 1)) := by
  intro e i
  fun_cases inCh (den S g f) e i
  · exact fun _ => rfl
  · exact den_succ_ext S g f _ i

theorem flatCh_fwd (f : Nat) (xs : List OE) (i : List Rune) (hne : choiceD (den S g f) xs i ≠ .oof) :
    choiceD (den S g f) (flatCh xs) i = choiceD (den S g f) xs i := by
  rw [flatCh_eq]; exact choiceD_ext (den_le_inCh f) xs i hne

theorem flatCh_bwd (f : Nat) (xs : List OE) (i : List Rune) (hne : choiceD (den S g f) (flatCh xs) i ≠ .oof) :
    choiceD (den S g (f + 1)) xs i = choiceD (den S g f) (flatCh xs) i := by
  rw [flatCh_eq] at hne ⊢; exact choiceD_ext (inCh_le_den f) xs i hne

theorem litD_append (ic : Bool) (a b i : List Rune) :
    litD S ic (a ++ b) i = match litD S ic a i with
      | .ok j => litD S ic b j
      | r => r := by
  fun_induction litD S ic a i with
  | case1 i => rfl
  | case2 c cs => rfl
  | case3 c cs r rest h ih => rw [List.cons_append, litD_cons, if_pos h]; exact ih
  | case4 c cs r rest h => rw [List.cons_append, litD_cons, if_neg h]

theorem den_lit_append (f : Nat) (a b : List Rune) (ic : Bool) (i : List Rune) :
    den S g f (.lit (a ++ b) ic) i = thenR (den S g f (.lit b ic)) (den S g f (.lit a ic) i) := by
  cases f with
  | zero => rfl
  | succ f => exact litD_append ic a b i

theorem mergeLitFrom_eq (f : Nat) (rest : List OE) (cur : OE) : ∀ (i : List Rune),
    seqD (den S g f) (mergeLitFrom cur rest) i = seqD (den S g f) (cur :: rest) i := by
  fun_induction mergeLitFrom cur rest with
  | case1 cur => exact fun _ => rfl
  | case2 rest a ic b ic' h ih =>
    intro i
    obtain rfl : ic = ic' := by simpa using h
    rw [ih, seqD_cons, seqD_cons, den_lit_append]
    cases den S g f (.lit a ic) i <;> rfl
  | case3 rest a ic b ic' _ ih => exact fun i => congrArg (thenR · (den S g f _ i)) (funext ih)
  | case4 cur y rest _ ih => exact fun i => congrArg (thenR · (den S g f _ i)) (funext ih)

theorem mergeLits_eq (f : Nat) (xs : List OE) (i : List Rune) : seqD (den S g f) (mergeLits xs) i = seqD (den S g f) xs i := by
  cases xs with
  | nil => rfl
  | cons x rest => exact mergeLitFrom_eq f rest x i

theorem mkSeq_fwd (f : Nat) (ys : List OE) (i : List Rune) (hne : seqD (den S g f) ys i ≠ .oof) :
    den S g (f + 1) (mkSeq ys) i = seqD (den S g f) ys i := by
  fun_cases mkSeq ys with
  | case1 y => rw [seqD_one] at hne ⊢; exact den_succ_ext S g f y i hne
  | case2 => rfl

theorem mkSeq_bwd (f : Nat) (ys : List OE) (i : List Rune) : den S g f (mkSeq ys) i ≠ .oof →
    seqD (den S g f) ys i = den S g f (mkSeq ys) i := by
  fun_cases mkSeq ys with
  | case1 y => exact fun _ => seqD_one _ y i
  | case2 =>
    intro hne
    cases f with
    | zero => exact absurd (den_zero _ i) hne
    | succ f => exact seqD_ext (den_succ_ext S g f) ys i hne

theorem den_mergeable {x : OE} {a : List Rune × List (Rune × Rune) × List String × Bool} (h : mergeable x = some a) (f : Nat)
    (i : List Rune) : den S g (f + 1) x i = clsD S a.1 a.2.1 a.2.2.1 a.2.2.2 false i := by
  revert h
  fun_cases mergeable x
  · rintro ⟨rfl⟩
    cases i with
    | nil => rfl
    | cons r rest =>
      show (if litStep S _ _ r then _ else _) = if (litStep S _ _ r || false || false || false) != false then _ else _
      cases litStep S _ _ r <;> rfl
  · rintro ⟨rfl⟩; rfl
  · exact fun h => nomatch h

theorem or_or_or (x1 y1 x2 y2 x3 y3 : Bool) : ((x1 || y1) || (x2 || y2) || (x3 || y3)) = ((x1 || x2 || x3) || (y1 || y2 || y3)) := by
  simp only [Bool.or_assoc, Bool.or_left_comm]

theorem clsMem_append (a1 b1 : List Rune) (a2 b2 : List (Rune × Rune)) (a3 b3 : List String) (ic : Bool) (r : Rune) :
    clsMem S (a1 ++ b1) (a2 ++ b2) (a3 ++ b3) ic r = (clsMem S a1 a2 a3 ic r || clsMem S b1 b2 b3 ic r) := by
  simp only [clsMem, charMem, List.any_append]
  exact or_or_or ..

theorem clsD_union (a1 b1 : List Rune) (a2 b2 : List (Rune × Rune)) (a3 b3 : List String) (ic : Bool) (i : List Rune) :
    clsD S (a1 ++ b1) (a2 ++ b2) (a3 ++ b3) ic false i = elseR (clsD S b1 b2 b3 ic false i) (clsD S a1 a2 a3 ic false i) := by
  cases i with
  | nil => rfl
  | cons r rest =>
    rw [clsD_cons, clsD_cons, clsD_cons, clsMem_append]
    cases clsMem S a1 a2 a3 ic r <;> cases clsMem S b1 b2 b3 ic r <;> rfl

theorem den_union {x y : OE} {a b : List Rune × List (Rune × Rune) × List String × Bool} (ha : mergeable x = some a)
    (hb : mergeable y = some b) (hic : a.2.2.2 = b.2.2.2) (f : Nat) (i : List Rune) :
    den S g f (canonCls (a.1 ++ b.1) (a.2.1 ++ b.2.1) (a.2.2.1 ++ b.2.2.1) a.2.2.2 false) i =
      elseR (den S g f y i) (den S g f x i) := by
  cases f with
  | zero => rfl
  | succ f => rw [den_canonCls, den_mergeable ha, den_mergeable hb, ← hic]; exact clsD_union ..

theorem mergeClsFrom_eq (f : Nat) (rest : List OE) (cur : OE) (i : List Rune) :
    choiceD (den S g f) (mergeClsFrom cur rest) i = choiceD (den S g f) (cur :: rest) i := by
  fun_induction mergeClsFrom cur rest with
  | case1 cur => rfl
  | case2 cur y rest a b hb ha h ih =>
    rw [ih, choiceD_cons, choiceD_cons, den_union ha hb (by simpa using h)]
    cases den S g f cur i <;> rfl
  | case3 cur y rest a b _ _ _ ih => rw [choiceD_cons, ih, ← choiceD_cons]
  | case4 cur y rest _ ih => rw [choiceD_cons, ih, ← choiceD_cons]

theorem mergeCls_eq (f : Nat) (xs : List OE) (i : List Rune) : choiceD (den S g f) (mergeCls xs) i = choiceD (den S g f) xs i := by
  cases xs with
  | nil => rfl
  | cons x rest => exact mergeClsFrom_eq f rest x i

theorem mkCh_fwd (f : Nat) (ys : List OE) (i : List Rune) (hne : choiceD (den S g f) ys i ≠ .oof) :
    den S g (f + 1) (mkCh ys) i = choiceD (den S g f) ys i := by
  fun_cases mkCh ys with
  | case1 y => rw [choiceD_one] at hne ⊢; exact den_succ_ext S g f y i hne
  | case2 => rfl

theorem mkCh_bwd (f : Nat) (ys : List OE) (i : List Rune) : den S g f (mkCh ys) i ≠ .oof →
    choiceD (den S g f) ys i = den S g f (mkCh ys) i := by
  fun_cases mkCh ys with
  | case1 y => exact fun _ => choiceD_one _ y i
  | case2 =>
    intro hne
    cases f with
    | zero => exact absurd (den_zero _ i) hne
    | succ f => exact choiceD_ext (den_succ_ext S g f) ys i hne

end

/-- what is asked of the bodies that are inlined, forward -/
def InlFwd (S : Sem) (g : Gram) (ib : String → Option OE) : Prop :=
  ∀ n b, ib n = some b → ∀ f i, den S g f (.ref n) i ≠ .oof → den S g f b i = den S g f (.ref n) i

/-- what is asked of the bodies that are inlined, backward -/
def InlBwd (S : Sem) (g : Gram) (ib : String → Option OE) : Prop :=
  ∀ n b, ib n = some b → ∀ f i, den S g f b i ≠ .oof → ∃ f', den S g f' (.ref n) i = den S g f b i

/-- the rewrite at the head -/
def post (ib : String → Option OE) : OE → OE
  | .cls cs rs ns ic inv => canonCls cs rs ns ic inv
  | .seq es => mkSeq (mergeLits (flatSeq es))
  | .choice es => mkCh (mergeCls (flatCh es))
  | .ref n => match ib n with
    | some b => b
    | none => .ref n
  | e => e

theorem nfStep_eq (ib : String → Option OE) (e : OE) : nfStep ib e = post ib (mapCh (nfStep ib) e) := by
  cases e with
  | seq es => exact congrArg (fun l => mkSeq (mergeLits (flatSeq l))) (nfStepL_eq_map ib es)
  | choice es => exact congrArg (fun l => mkCh (mergeCls (flatCh l))) (nfStepL_eq_map ib es)
  | _ => rfl

section
variable {S : Sem} {g : Gram} {ib : String → Option OE}

theorem post_fwd (ha : InlFwd S g ib) (f : Nat) (e : OE) (i : List Rune) (hne : den S g (f + 1) e i ≠ .oof) :
    den S g (f + 1) (post ib e) i = den S g (f + 1) e i := by
  fun_cases post ib e with
  | case1 cs rs ns ic inv => exact den_canonCls S g cs rs ns ic inv (f + 1) i
  | case2 es =>
    have h0 : seqD (den S g f) es i ≠ .oof := hne
    have h3 := (mergeLits_eq f (flatSeq es) i).trans (flatSeq_fwd f es i h0)
    exact (mkSeq_fwd f _ i (by rw [h3]; exact h0)).trans h3
  | case3 es =>
    have h0 : choiceD (den S g f) es i ≠ .oof := hne
    have h3 := (mergeCls_eq f (flatCh es) i).trans (flatCh_fwd f es i h0)
    exact (mkCh_fwd f _ i (by rw [h3]; exact h0)).trans h3
  | case4 n b hb => exact ha n b hb (f + 1) i hne
  | _ => rfl

theorem post_bwd (hb : InlBwd S g ib) (e : OE) (f : Nat) (i : List Rune) : den S g f (post ib e) i ≠ .oof →
    ∃ f', den S g f' e i = den S g f (post ib e) i := by
  fun_cases post ib e with
  | case1 cs rs ns ic inv => exact fun _ => ⟨f, (den_canonCls S g cs rs ns ic inv f i).symm⟩
  | case2 es =>
    intro hne
    have h1 := mkSeq_bwd f _ i hne
    have h2 := mergeLits_eq (S := S) (g := g) f (flatSeq es) i
    exact ⟨f + 2, (flatSeq_bwd f es i (by rw [← h2, h1]; exact hne)).trans (h2.symm.trans h1)⟩
  | case3 es =>
    intro hne
    have h1 := mkCh_bwd f _ i hne
    have h2 := mergeCls_eq (S := S) (g := g) f (flatCh es) i
    exact ⟨f + 2, (flatCh_bwd f es i (by rw [← h2, h1]; exact hne)).trans (h2.symm.trans h1)⟩
  | case4 n b hbn => exact hb n b hbn f i
  | _ => exact fun _ => ⟨f, rfl⟩

theorem nfStep_fwd (ha : InlFwd S g ib) : ∀ (f : Nat) (e : OE) (i : List Rune), den S g f e i ≠ .oof →
    den S g f (nfStep ib e) i = den S g f e i := by
  intro f
  induction f with
  | zero => exact fun e i hne => absurd (den_zero e i) hne
  | succ f ih =>
    intro e i hne
    have h1 : den S g (f + 1) (mapCh (nfStep ib) e) i = den S g (f + 1) e i :=
      step_map S g (d := 0) e i (fun c _ => ih c) (fun _ _ => rfl) hne
    rw [nfStep_eq, post_fwd ha f _ i (by rw [h1]; exact hne), h1]

theorem nfStep_bwd (hb : InlBwd S g ib) : ∀ (e : OE) (f : Nat) (i : List Rune), den S g f (nfStep ib e) i ≠ .oof →
    ∃ f', den S g f' e i = den S g f (nfStep ib e) i := by
  intro e
  induction e using childInd with
  | _ e ih =>
    intro f i hne
    rw [nfStep_eq] at hne ⊢
    obtain ⟨f1, h1⟩ := post_bwd hb _ f i hne
    cases f1 with
    | zero => exact absurd (h1.symm.trans (den_zero _ i)) hne
    | succ f1 =>
      obtain ⟨f2, h2⟩ := step_sub (g := g) (k := f1) e i (fun c hc => ih c hc f1) (fun _ _ => ⟨f1 + 1, rfl⟩)
        (by rw [← h1] at hne; exact hne)
      exact ⟨f2, h2.trans h1⟩

theorem nfStepL_bwd_seq (hb : InlBwd S g ib) : ∀ (es : List OE) (f : Nat) (i : List Rune),
    seqD (den S g f) (nfStepL ib es) i ≠ .oof → ∃ f', seqD (den S g f') es i = seqD (den S g f) (nfStepL ib es) i := by
  intro es f i hne
  rw [nfStepL_eq_map] at hne ⊢
  have := (chain_ev (b := id) .sq es (fun e _ i hn => den_ev S g hn (nfStep_bwd hb e f i hn)) i hne).some
  rwa [List.map_id] at this

theorem nfStepL_bwd_ch (hb : InlBwd S g ib) : ∀ (es : List OE) (f : Nat) (i : List Rune),
    choiceD (den S g f) (nfStepL ib es) i ≠ .oof → ∃ f', choiceD (den S g f') es i = choiceD (den S g f) (nfStepL ib es) i := by
  intro es f i hne
  rw [nfStepL_eq_map] at hne ⊢
  have := (chain_ev (b := id) .ch es (fun e _ i hn => den_ev S g hn (nfStep_bwd hb e f i hn)) i hne).some
  rwa [List.map_id] at this

end

end Opt
end PV
