/-
  C11 — error contract: accumulated, deduplicated errors; panics are contained.
-/
import PigeonVerif.Proofs.Interp
import PigeonVerif.Proofs.Basic

namespace PV

theorem dedupeAux_nil (seen : List String) : dedupeAux seen [] = [] := rfl

theorem dedupeAux_cons (seen : List String) (m : String) (rest : List String) :
    dedupeAux seen (m :: rest) = if seen.contains m then dedupeAux seen rest else m :: dedupeAux (m :: seen) rest := rfl

theorem dedupe_singleton (m : String) : dedupe [m] = [m] := rfl

theorem dedupeAux_mem (seen l : List String) (m : String) : m ∈ dedupeAux seen l ↔ m ∈ l ∧ m ∉ seen := by
  induction l generalizing seen with
  | nil => exact ⟨nofun, fun h => nomatch h.1⟩
  | cons x xs ih =>
    rw [dedupeAux_cons]
    split
    · next hx =>
      have hx : x ∈ seen := by simpa using hx
      rw [ih, List.mem_cons]
      exact ⟨fun ⟨h1, h2⟩ => ⟨.inr h1, h2⟩, fun ⟨h1, h2⟩ => ⟨h1.resolve_left fun e => h2 (e ▸ hx), h2⟩⟩
    · next hx =>
      have hx : x ∉ seen := by simpa using hx
      rw [List.mem_cons, ih, List.mem_cons, List.mem_cons]
      constructor
      · rintro (rfl | ⟨h1, h2⟩)
        · exact ⟨.inl rfl, hx⟩
        · exact ⟨.inr h1, fun h => h2 (.inr h)⟩
      · rintro ⟨rfl | h1, h2⟩
        · exact .inl rfl
        · by_cases e : m = x
          · exact .inl e
          · exact .inr ⟨h1, fun h => h.elim e h2⟩

theorem dedupeAux_nodup (seen l : List String) : (dedupeAux seen l).Nodup := by
  induction l generalizing seen with
  | nil => exact .nil
  | cons x xs ih =>
    rw [dedupeAux_cons]
    split
    · exact ih seen
    · refine List.nodup_cons.mpr ⟨fun h => ?_, ih _⟩
      exact ((dedupeAux_mem (x :: seen) xs x).mp h).2 List.mem_cons_self

/-- **C11 (a)** messages are reported once -/
theorem C11_dedupe_nodup (l : List String) : (dedupe l).Nodup := dedupeAux_nodup [] l

/-- every message that was recorded is reported, nothing else is -/
theorem C11_dedupe_mem (l : List String) (m : String) : m ∈ dedupe l ↔ m ∈ l :=
  (dedupeAux_mem [] l m).trans (and_iff_left List.not_mem_nil)

theorem dedupeAux_sublist (seen l : List String) : (dedupeAux seen l).Sublist l := by
  induction l generalizing seen with
  | nil => exact .slnil
  | cons x xs ih =>
    rw [dedupeAux_cons]
    split
    · exact (ih seen).cons _
    · exact (ih _).cons_cons _

/-- messages are reported in order of first occurrence (the result is a sublist of the recorded list). -/
theorem C11_dedupe_order (l : List String) : (dedupe l).Sublist l := dedupeAux_sublist [] l

/-- the first recorded message is always the first reported one -/
theorem C11_dedupe_head (m : String) (l : List String) : (dedupe (m :: l)).head? = some m := by
  simp [dedupe, dedupeAux_cons]

theorem dedupeAux_of_nodup (seen l : List String) (h : l.Nodup) (hd : ∀ m ∈ l, m ∉ seen) :
    dedupeAux seen l = l := by
  induction l generalizing seen with
  | nil => rfl
  | cons x xs ih =>
    rw [dedupeAux_cons]
    have hx : x ∉ seen := hd x List.mem_cons_self
    have : seen.contains x = false := by simpa using hx
    simp only [this, Bool.false_eq_true, if_false]
    congr 1
    apply ih _ (List.nodup_cons.mp h).2
    intro m hm
    have : m ≠ x := fun he => (List.nodup_cons.mp h).1 (he ▸ hm)
    simp [this, hd m (List.mem_cons_of_mem _ hm)]

theorem C11_dedupe_idem (l : List String) : dedupe (dedupe l) = dedupe l :=
  dedupeAux_of_nodup [] _ (C11_dedupe_nodup l) (by simp)

theorem dedupeAux_snoc (m : String) (l : List String) : ∀ seen : List String,
    dedupeAux seen (l ++ [m]) = dedupeAux seen l ++ (if m ∈ l ++ seen then [] else [m]) := by
  induction l with
  | nil => intro seen; simp [dedupeAux_cons, dedupeAux_nil]
  | cons y ys ih =>
    intro seen
    simp only [List.cons_append, dedupeAux_cons, ih]
    by_cases hc : seen.contains y = true
    · have : m ∈ y :: (ys ++ seen) ↔ m ∈ ys ++ seen :=
        List.mem_cons.trans (or_iff_right_of_imp fun e => e ▸ List.mem_append_right _ (List.contains_iff_mem.mp hc))
      simp only [if_pos hc, this]
    · simp only [if_neg hc, List.perm_middle.mem_iff, List.cons_append]

theorem dedupe_snoc (l : List String) (m : String) : dedupe (l ++ [m]) = dedupe l ++ (if m ∈ l then [] else [m]) := by
  unfold dedupe; rw [dedupeAux_snoc, List.append_nil]

namespace RT

theorem C11_panic_becomes_final_error (E : Env) (hr : E.opts.recover = true) (p : PanicVal) (s : PState) :
    finish E (.panic p s) = .ret .nil (dedupe (s.errs ++ [errPrefix E s s.pt.pos ++ ": " ++ panicMessage p]))
      (addErr E s (panicMessage p)) := by
  simp [finish, hr, addErr, addErrAt]

/-- **C11 (b)** With `Recover(true)` (the default) no panic escapes `parse`: whatever a code
    block (or the budget) raises becomes the final recorded error, with a `nil` value. -/
theorem C11_panic_contained (E : Env) (fuel : Nat) (hr : E.opts.recover = true) :
    ∀ p s, parse E fuel ≠ .panic p s := by
  intro p s h
  rw [parse_eq] at h
  split at h
  · generalize parseRuleWrap E (parseExpr E fuel) fuel _ (startState E) = o at h
    cases o with
    | oof => cases h
    | panic p' s' => rw [C11_panic_becomes_final_error E hr] at h; cases h
    | done v ok s' =>
      cases ok with
      | true => cases h
      | false => rcases ite_eq_cases (c := s'.errs.isEmpty = true) h with ⟨_, e⟩ | ⟨_, e⟩ <;> cases e
  · cases h

/-- **C11 (c)** with `Recover(false)` the panic propagates to the caller -/
theorem C11_panic_propagates (E : Env) (hr : E.opts.recover = false) (p : PanicVal) (s : PState) :
    finish E (.panic p s) = .panic p s := by
  simp [finish, hr]

/-- a value and errors can be returned together: a successful parse returns its value and
    whatever errors were recorded on the way -/
theorem C11_value_and_errors (E : Env) (v : Val) (s : PState) :
    finish E (.done v true s) = .ret v (dedupe s.errs) s := by
  simp [finish]

/-- **C11 (d)** every error is `prefix: inner` with `prefix = [file:]line:col (offset)[: rule name]`;
    the rule part is the display name when there is one. -/
theorem C11_error_shape (E : Env) (s : PState) (msg : String) (pos : Pos) :
    (addErrAt E s msg pos).errs = s.errs ++ [errPrefix E s pos ++ ": " ++ msg] := rfl

theorem C11_prefix_display_name (E : Env) (s : PState) (pos : Pos) (r : Rule) (rs : List Rule)
    (hrs : s.rstack = r :: rs) (hd : r.displayName ≠ "") :
    errPrefix E s pos =
      (if E.opts.filename ≠ "" then E.opts.filename ++ ":" else "") ++
        toString pos.line ++ ":" ++ toString pos.col ++ " (" ++ toString pos.off ++ ")" ++
        ": " ++ ("rule " ++ r.displayName) := by
  simp [errPrefix, hrs, hd]

theorem dedupe_addErrAt_nil (E : Env) {a : PState} (ha : a.errs = []) (m : String) (p : Pos) :
    dedupe (addErrAt E a m p).errs = [errPrefix E a p ++ ": " ++ m] := by
  unfold addErrAt; rw [ha]; rfl

end RT
end PV
