/-
  C01 — generated parsers implement PEG matching: on the full runtime model, "an expression that
  fails consumes nothing"; for the plain configuration, the refinement theorem: the runtime model
  computes exactly the PEG specification `Spec.eval` (Spec/Peg.lean).
-/
import PigeonVerif.Proofs.Refine
import PigeonVerif.Proofs.FuelMono

namespace PV
namespace RT

/-- **C01 (a)** An expression that fails consumes nothing: the input offset after a failed
    expression is the offset before it — for every expression kind, with memoization and
    left recursion. -/
theorem C01_fail_consumes_nothing (E : Env) (f : Nat) (e : Expr) (s s' : PState) (v : Val)
    (hm : MemoOK s) (h : parseExpr E f e s = .done v false s') : s'.pt.pos.off = s.pt.pos.off :=
  (parseExpr_framed hm h).failOff rfl

/-- the same with the whole savepoint (line, column, current rune): the parser is exactly where it was -/
theorem C01_fail_restores_position (E : Env) (f : Nat) (e : Expr) (s s' : PState) (v : Val)
    (hm : MemoOK s) (hp : PtInv E s) (h : parseExpr E f e s = .done v false s') : s'.pt = s.pt :=
  (parseExpr_framed hm h).fail_pt hp

/-- **C01 (b)** `&e` and `!e` consume nothing whether they match or not. -/
theorem C01_predicates_consume_nothing (E : Env) (f : Nat) (id : Nat) (e1 : Expr) (s s' : PState)
    (v : Val) (ok : Bool)
    (h : parseExpr E (f + 1) (.and id e1) s = .done v ok s' ∨
         parseExpr E (f + 1) (.not id e1) s = .done v ok s') :
    s'.pt.pos.off = s.pt.pos.off ∧ v = .nil := by
  rcases h with h | h <;> obtain ⟨_, _, _, _, hb⟩ := Outcome.bind_eq_done (parseExpr_succ h).2 <;> cases hb <;> simp

/-- **C01 (c) — refinement.** With default options apart from the ones the specification does not
    describe (no `Memoize`, no `MaxExpressions`, no left-recursive rules), for EVERY grammar, code
    environment, input, depth, expression and reachable parser state, `parseExpr` returns what the
    PEG specification `Spec.eval` prescribes: success or failure; on success the value, the end
    position and the labels in scope; in both cases the world — state store, global store, recorded
    errors, and the complete sequence of code-block invocations with the position, text, arguments
    and stores each of them saw. All PEG laws (ordered choice, greedy repetition without
    backtracking into it, predicates consuming nothing, failure restoring position and state,
    literal and class matching rune by rune, recovery through the innermost handler) are read off
    the 150-line specification instead of the 700-line runtime model. -/
theorem C01_runtime_is_peg (E : Env) (hp : Plain E) (f : Nat) (e : Expr) (s : PState) (hg : Good E s) :
    abs (parseExpr E f e s) = Spec.eval E f (ctxOf s) e (envOf s) s.pt (absW s) :=
  parseExpr_refines hp f e s hg

/-- the state in which `parse` evaluates the start rule is one the theorem applies to (its
    hypotheses are met by every run, not by no run) -/
theorem C01_start_is_good (E : Env) (r : Rule) : Good E (pushV { startState E with rstack := [r] }) := by
  obtain ⟨errs, h⟩ := startState_fields E
  rw [h]; exact ⟨List.cons_ne_nil _ _, ⟨Reach.first E.input, fun _ he => nomatch he⟩, fun _ he => nomatch he⟩

theorem start_abs (E : Env) (r : Rule) :
    ctxOf (pushV { startState E with rstack := [r] }) = { rule := some r, handlers := [] } ∧
    envOf (pushV { startState E with rstack := [r] }) = [] ∧
    ((pushV { startState E with rstack := [r] }).pt, absW (pushV { startState E with rstack := [r] })) =
      Spec.advance E { rule := none, handlers := [] } pt0 (Spec.initWorld E) := by
  have h : Spec.advance E { rule := none, handlers := [] } pt0 (Spec.initWorld E) = _ := (read_advance E (initState E)).symm
  have h2 : (read E (initState E)).recoveryStack = [] := read.recoveryStack
  have h3 : (read E (initState E)).maxFailInvert = false := read.maxFailInvert
  rw [h]
  unfold startState
  -- with `read E (initState E)` a variable the remaining equations are projections of a record
  generalize read E (initState E) = s1 at h2 h3 ⊢
  exact ⟨by simp only [ctxOf, pushV, h2, h3, List.head?], rfl, rfl⟩

/-- **C01 (d) — whole parse.** The outcome `parse` hands to its result contract is the start rule
    evaluated by the specification: `Spec.parse` (first read, then `Spec.eval` of the entry rule's
    expression in an empty label scope) is the abstraction of what the runtime computed. -/
theorem C01_parse_is_peg (E : Env) (hp : Plain E) (fuel : Nat) (first : Rule) (rest : List Rule)
    (hr : E.rules = first :: rest) (r : Rule) (hf : E.findRule (entryName E first) = some r) :
    Spec.parse E fuel = some (abs (parseExpr E fuel r.expr (pushV { startState E with rstack := [r] }))) ∧
    parse E fuel = finish E (parseRule E (parseExpr E fuel) r (startState E)) := by
  constructor
  · obtain ⟨c1, c2, c3⟩ := start_abs E r
    have h : Spec.parse E fuel =
        (match Spec.advance E { rule := none, handlers := [] } pt0 (Spec.initWorld E) with
         | (pt, w) => some (Spec.eval E fuel { rule := some r, handlers := [] } r.expr [] pt w)) := by
      unfold Spec.parse; simp only [hr, hf]; rfl
    rw [h, ← c3, C01_runtime_is_peg E hp fuel r.expr _ (C01_start_is_good E r), c1, c2]
  · unfold parse
    simp only [hr, hf]
    rw [ruleWrap_eq hp fuel _ r hf]

/-- **C01 (e)** the specification is a partial FUNCTION: whatever fuel makes `Spec.eval` answer, the
    answer is the same (`Spec.eval_mono`), so an expression has at most one result -/
theorem C01_spec_result_unique (E : Env) (c : Spec.Ctx) (e : Expr) (env : List (String × Val)) (pt : Savepoint)
    (w : Spec.World) (r1 r2 : Spec.Res) (h1 : Spec.Evaluates E c e env pt w r1) (h2 : Spec.Evaluates E c e env pt w r2) :
    r1 = r2 := h1.unique h2

/-- the runtime is a partial function as well, in every configuration (memoization, left recursion, budget) -/
theorem C01_runtime_result_unique (E : Env) (e : Expr) (s : PState) (o1 o2 : Outcome)
    (h1 : Parses E e s o1) (h2 : Parses E e s o2) : o1 = o2 := h1.unique h2

/-- `Plain` is satisfiable (the theorem is not vacuous): any environment without memoization, budget
    and left-recursion flags -/
example (E : Env) (h1 : E.opts.memoize = false) (h2 : E.opts.maxExpr = none)
    (h3 : ∀ n r, E.findRule n = some r → r.leftRecursive = false ∧ r.leader = false) : Plain E := ⟨h1, h2, h3⟩

end RT
end PV

/-! ### the laws of PEG matching, read off the specification

  `Spec.eval` is short enough to read, and these are the laws a PEG user relies on, stated for an
  arbitrary semantics `rec` of the sub-expressions (so at every depth). By `C01_runtime_is_peg` they
  are laws of the runtime in the plain configuration. -/

namespace PV
namespace Spec

variable (E : Env) (rec : Ctx → Expr → List (String × Val) → Savepoint → World → Res)

/-- **ordered choice commits to the first alternative that matches**: later alternatives are not
    looked at, the value and the end position are that alternative's, labels bound inside it are
    not visible outside -/
theorem C01_law_choice_first_match (c : Ctx) (e : Expr) (es : List Expr) (env : List (String × Val)) (pt : Savepoint)
    (w : World) (v : Val) (pt' : Savepoint) (env' : List (String × Val)) (w' : World)
    (h : rec c e [] pt w = .ok v pt' env' w') :
    evalChoice E rec c (e :: es) env pt w = .ok v pt' env w' := by
  simp [evalChoice, h]

/-- when the first alternative fails the choice is the choice of the rest, evaluated at the
    SAME position with the state store rolled back (errors recorded meanwhile stay) -/
theorem C01_law_choice_skip_failed (c : Ctx) (e : Expr) (es : List Expr) (env : List (String × Val)) (pt : Savepoint)
    (w : World) (env' : List (String × Val)) (w' : World) (h : rec c e [] pt w = .fail env' w') :
    evalChoice E rec c (e :: es) env pt w = evalChoice E rec c es env pt (rollback E w' w.state) := by
  simp [evalChoice, h]

theorem C01_law_choice_empty_fails (c : Ctx) (env : List (String × Val)) (pt : Savepoint) (w : World) :
    evalChoice E rec c [] env pt w = .fail env w := rfl

/-- **sequence**: the first failing item fails the whole sequence; the state store is the one from
    before the sequence -/
theorem C01_law_seq_fails_at_first_failure (c : Ctx) (st0 : Store) (e : Expr) (es : List Expr) (env : List (String × Val))
    (pt : Savepoint) (w : World) (acc : List Val) (env' : List (String × Val)) (w' : World)
    (h : rec c e env pt w = .fail env' w') :
    evalSeq E rec c st0 (e :: es) env pt w acc = .fail env' (rollback E w' st0) := by
  simp [evalSeq, h]

/-- **sequence**: a matching item hands its end position, its label bindings and its world to the
    next one, and contributes one element to the value -/
theorem C01_law_seq_continues (c : Ctx) (st0 : Store) (e : Expr) (es : List Expr) (env : List (String × Val))
    (pt : Savepoint) (w : World) (acc : List Val) (v : Val) (pt' : Savepoint) (env' : List (String × Val)) (w' : World)
    (h : rec c e env pt w = .ok v pt' env' w') :
    evalSeq E rec c st0 (e :: es) env pt w acc = evalSeq E rec c st0 es env' pt' w' (v :: acc) := by
  simp [evalSeq, h]

theorem C01_law_seq_empty_matches (c : Ctx) (st0 : Store) (env : List (String × Val)) (pt : Savepoint) (w : World) (acc : List Val) :
    evalSeq E rec c st0 [] env pt w acc = .ok (.list acc.reverse) pt env w := rfl

/-- **greedy repetition**: an iteration that matches is always taken (no backtracking into `*`/`+`) -/
theorem C01_law_loop_takes_every_match (c : Ctx) (e : Expr) (k : Nat) (env : List (String × Val)) (pt : Savepoint) (w : World)
    (acc : List Val) (v : Val) (pt' : Savepoint) (env' : List (String × Val)) (w' : World)
    (h : rec c e [] pt w = .ok v pt' env' w') :
    evalLoop rec c e (k + 1) env pt w acc = evalLoop rec c e k env pt' w' (v :: acc) := by
  simp [evalLoop, h]

/-- **greedy repetition** stops at the first iteration that fails, at the position before that iteration -/
theorem C01_law_loop_stops_at_failure (c : Ctx) (e : Expr) (k : Nat) (env : List (String × Val)) (pt : Savepoint) (w : World)
    (acc : List Val) (env' : List (String × Val)) (w' : World) (h : rec c e [] pt w = .fail env' w') :
    evalLoop rec c e (k + 1) env pt w acc =
      (if acc.isEmpty then .fail env w' else .ok (.list acc.reverse) pt env w') := by
  simp [evalLoop, h]

/-- `e*` never fails: zero iterations give the empty list at the same position -/
theorem C01_law_star_of_failing_body (k id : Nat) (c : Ctx) (e : Expr) (env : List (String × Val)) (pt : Savepoint) (w : World)
    (env' : List (String × Val)) (w' : World) (h : rec c e [] pt w = .fail env' w') :
    evalStep E rec (k + 1) c (.zeroOrMore id e) env pt w = .ok (.list []) pt env w' := by
  dsimp only [evalStep, evalLoop]; rw [h]; rfl

/-- `e?` never fails: `nil` at the same position when `e` does not match -/
theorem C01_law_opt_of_failing_body (k id : Nat) (c : Ctx) (e : Expr) (env : List (String × Val)) (pt : Savepoint) (w : World)
    (env' : List (String × Val)) (w' : World) (h : rec c e [] pt w = .fail env' w') :
    evalStep E rec k c (.zeroOrOne id e) env pt w = .ok .nil pt env w' := by
  dsimp only [evalStep]; rw [h]

/-- `&e` matches exactly when `e` does, `!e` exactly when it does not; both consume nothing, yield
    nil, bind nothing, and leave the state store as it was before. (The operand of `!` is evaluated with
    the negation parity flipped: the parity only labels the terminal attempts in the ghost log used by C12,
    nothing in the semantics reads it.) -/
theorem C01_law_and_pred (k id : Nat) (c : Ctx) (e : Expr) (env : List (String × Val)) (pt : Savepoint) (w : World)
    (v : Val) (pt' : Savepoint) (env' : List (String × Val)) (w' : World) (h : rec c e [] pt w = .ok v pt' env' w') :
    evalStep E rec k c (.and id e) env pt w = .ok .nil pt env (rollback E w' w.state) := by
  dsimp only [evalStep]; rw [h]

theorem C01_law_and_pred_fails (k id : Nat) (c : Ctx) (e : Expr) (env : List (String × Val)) (pt : Savepoint) (w : World)
    (env' : List (String × Val)) (w' : World) (h : rec c e [] pt w = .fail env' w') :
    evalStep E rec k c (.and id e) env pt w = .fail env (rollback E w' w.state) := by
  dsimp only [evalStep]; rw [h]

theorem C01_law_not_pred (k id : Nat) (c : Ctx) (e : Expr) (env : List (String × Val)) (pt : Savepoint) (w : World)
    (env' : List (String × Val)) (w' : World) (h : rec { c with neg := !c.neg } e [] pt w = .fail env' w') :
    evalStep E rec k c (.not id e) env pt w = .ok .nil pt env (rollback E w' w.state) := by
  dsimp only [evalStep]; rw [h]

theorem C01_law_not_pred_fails (k id : Nat) (c : Ctx) (e : Expr) (env : List (String × Val)) (pt : Savepoint) (w : World)
    (v : Val) (pt' : Savepoint) (env' : List (String × Val)) (w' : World)
    (h : rec { c with neg := !c.neg } e [] pt w = .ok v pt' env' w') :
    evalStep E rec k c (.not id e) env pt w = .fail env (rollback E w' w.state) := by
  dsimp only [evalStep]; rw [h]

/-- a labelled expression yields the labelled value and adds exactly one binding to the scope -/
theorem C01_law_labeled_binds (k id : Nat) (l : String) (hl : l ≠ "") (c : Ctx) (e : Expr) (env : List (String × Val))
    (pt : Savepoint) (w : World) (v : Val) (pt' : Savepoint) (env' : List (String × Val)) (w' : World)
    (h : rec c e [] pt w = .ok v pt' env' w') :
    evalStep E rec k c (.labeled id l e) env pt w = .ok v pt' ((l, v) :: env) w' := by
  dsimp only [evalStep]; rw [h]; simp [hl]

/-- the any matcher and classes never match at end of input -/
theorem C01_law_any_fails_at_eof (k id : Nat) (c : Ctx) (env : List (String × Val)) (pt : Savepoint) (w : World)
    (h : atEOF pt = true) : evalStep E rec k c (.any id) env pt w = .fail env (note c pt.pos "." false w) := by
  dsimp only [evalStep]; rw [h, if_pos rfl]


/-! ### the documented value shapes, read off the specification

  What `Parse` returns for each kind of expression (doc.go, "Returned values"): the exact matched input bytes for a terminal, nil for
  a predicate, one element per item for a sequence and per iteration for `*` / `+`, nil or the operand's value for `?`, the chosen
  alternative's value for a choice (laws above), the block's return value for an action. Stated for an arbitrary semantics `rec` of the
  sub-expressions; by `C01_runtime_is_peg` they are facts about the runtime in the plain configuration. -/

/-- **terminals return the exact matched input bytes**: a literal, a class or `.` that matches from `pt` to `pt'` has the value
    `input[pt.off, pt'.off)` - the bytes of the input, not the bytes of the grammar (`"K"i` on `k` returns `k`; a stray byte matched
    by U+FFFD is returned as that byte) - and binds nothing -/
theorem C01_shape_terminal (k : Nat) (c : Ctx) (e : Expr) (env env' : List (String × Val)) (pt pt' : Savepoint) (w w' : World) (v : Val)
    (hk : (∃ id val ic want, e = .lit id val ic want) ∨ (∃ id, e = .any id) ∨ (∃ id cd, e = .cls id cd))
    (h : evalStep E rec k c e env pt w = .ok v pt' env' w') : v = .bytes (slice E pt pt') ∧ env' = env := by
  rcases hk with ⟨id, val, ic, want, rfl⟩ | ⟨id, rfl⟩ | ⟨id, cd, rfl⟩ <;> dsimp only [evalStep] at h
  · generalize evalLit E c ic val pt w = p at h
    obtain ⟨_ | _, _⟩ := p <;> cases h
    exact ⟨rfl, rfl⟩
  · rcases ite_eq_cases h with ⟨_, h⟩ | ⟨_, h⟩ <;> cases h
    exact ⟨rfl, rfl⟩
  · rcases ite_eq_cases h with ⟨_, h⟩ | ⟨_, h⟩ <;> cases h
    exact ⟨rfl, rfl⟩

/-- **predicates return nil and consume nothing** (`&e`, `!e`, `&{…}`, `!{…}`) and bind nothing -/
theorem C01_shape_predicate (k : Nat) (c : Ctx) (e : Expr) (env env' : List (String × Val)) (pt pt' : Savepoint) (w w' : World) (v : Val)
    (hk : (∃ id e1, e = .and id e1) ∨ (∃ id e1, e = .not id e1) ∨ (∃ id b, e = .andCode id b) ∨ (∃ id b, e = .notCode id b))
    (h : evalStep E rec k c e env pt w = .ok v pt' env' w') : v = .nil ∧ pt' = pt ∧ env' = env := by
  rcases hk with ⟨id, e1, rfl⟩ | ⟨id, e1, rfl⟩ | ⟨id, b, rfl⟩ | ⟨id, b, rfl⟩ <;> dsimp only [evalStep] at h
  · generalize rec c e1 [] pt w = r at h
    cases r <;> cases h
    exact ⟨rfl, rfl, rfl⟩
  · generalize rec _ e1 [] pt w = r at h
    cases r <;> cases h
    exact ⟨rfl, rfl, rfl⟩
  all_goals
    generalize (call E b env pt w).fst.panic = q at h
    cases q
    · rcases ite_eq_cases h with ⟨_, h⟩ | ⟨_, h⟩ <;> cases h
      exact ⟨rfl, rfl, rfl⟩
    · cases h

/-- `acc.reverseAux vs` is `acc.reverse ++ vs`; in this form every step of the accumulator is `rfl` -/
theorem evalSeq_shape (c : Ctx) (st0 : Store) (es : List Expr) (env : List (String × Val)) (pt : Savepoint) (w : World) (acc : List Val)
    (v : Val) (pt' : Savepoint) (env' : List (String × Val)) (w' : World)
    (h : evalSeq E rec c st0 es env pt w acc = .ok v pt' env' w') : ∃ vs, v = .list (acc.reverseAux vs) ∧ vs.length = es.length := by
  induction es generalizing env pt w acc with
  | nil => cases h; exact ⟨[], rfl, rfl⟩
  | cons e es ih =>
    rcases Res.on_eq_ok (r := rec c e env pt w) h with ⟨v1, pt1, env1, w1, _, h⟩ | ⟨_, _, _, h⟩
    · obtain ⟨vs, hv, hl⟩ := ih env1 pt1 w1 (v1 :: acc) h
      exact ⟨v1 :: vs, hv, by simp [hl]⟩
    · cases h

/-- **a sequence returns one element per item** -/
theorem C01_shape_sequence (k : Nat) (c : Ctx) (id : Nat) (es : List Expr) (env env' : List (String × Val)) (pt pt' : Savepoint)
    (w w' : World) (v : Val) (h : evalStep E rec k c (.seq id es) env pt w = .ok v pt' env' w') :
    ∃ vs, v = .list vs ∧ vs.length = es.length := by
  dsimp only [evalStep] at h
  exact evalSeq_shape E rec c w.state es env pt w [] v pt' env' w' h

/-- the iterations of a greedy repetition from `pt`: each is one successful evaluation of the body in a fresh scope, starting where
    the previous one ended; the list ends at the first evaluation that fails -/
inductive Iterations (c : Ctx) (e : Expr) : Savepoint → World → List Val → Savepoint → Prop
  | stop {pt : Savepoint} {w : World} {env' : List (String × Val)} {w' : World} :
      rec c e [] pt w = .fail env' w' → Iterations c e pt w [] pt
  | more {pt pt1 pt' : Savepoint} {w w1 : World} {v1 : Val} {env1 : List (String × Val)} {vs : List Val} :
      rec c e [] pt w = .ok v1 pt1 env1 w1 → Iterations c e pt1 w1 vs pt' → Iterations c e pt w (v1 :: vs) pt'

theorem evalLoop_shape (c : Ctx) (e : Expr) (k : Nat) (env : List (String × Val)) (pt : Savepoint) (w : World) (acc : List Val)
    (v : Val) (pt' : Savepoint) (env' : List (String × Val)) (w' : World)
    (h : evalLoop rec c e k env pt w acc = .ok v pt' env' w') :
    ∃ vs, v = .list (acc.reverseAux vs) ∧ Iterations rec c e pt w vs pt' ∧ (acc = [] → vs ≠ []) := by
  induction k generalizing pt w acc with
  | zero => nomatch h
  | succ k ih =>
    rcases Res.on_eq_ok (r := rec c e [] pt w) h with ⟨v1, pt1, env1, w1, hr, h⟩ | ⟨env1, w1, hr, h⟩
    · obtain ⟨vs, hv, hi, _⟩ := ih pt1 w1 (v1 :: acc) h
      exact ⟨v1 :: vs, hv, .more hr hi, fun _ => nofun⟩
    · rcases ite_eq_cases h with ⟨_, h⟩ | ⟨hne, h⟩ <;> cases h
      exact ⟨[], rfl, .stop hr, fun ha => absurd (ha ▸ rfl) hne⟩

/-- **`e+` returns one element per iteration**: the list of the values of the successive matches of `e`, each starting where the
    previous one ended, up to the first position where `e` fails (where the repetition ends) -/
theorem C01_shape_one_or_more (k : Nat) (c : Ctx) (id : Nat) (e : Expr) (env env' : List (String × Val)) (pt pt' : Savepoint)
    (w w' : World) (v : Val) (h : evalStep E rec k c (.oneOrMore id e) env pt w = .ok v pt' env' w') :
    ∃ vs, v = .list vs ∧ vs ≠ [] ∧ Iterations rec c e pt w vs pt' := by
  dsimp only [evalStep] at h
  obtain ⟨vs, hv, hi, hne⟩ := evalLoop_shape rec c e k env pt w [] v pt' env' w' h
  exact ⟨vs, hv, hne rfl, hi⟩

/-- **`e*` returns one element per iteration** (the empty list when `e` does not match at all) -/
theorem C01_shape_zero_or_more (k : Nat) (c : Ctx) (id : Nat) (e : Expr) (env env' : List (String × Val)) (pt pt' : Savepoint)
    (w w' : World) (v : Val) (h : evalStep E rec k c (.zeroOrMore id e) env pt w = .ok v pt' env' w') :
    ∃ vs, v = .list vs ∧ Iterations rec c e pt w vs pt' := by
  dsimp only [evalStep] at h
  generalize hl : evalLoop rec c e k env pt w [] = r at h
  cases r with
  | ok v1 pt1 env1 w1 =>
    cases h
    obtain ⟨vs, hv, hi, _⟩ := evalLoop_shape rec c e k env pt w [] _ _ _ _ hl
    exact ⟨vs, hv, hi⟩
  | fail env1 w1 =>
    cases h
    obtain ⟨_, hr⟩ := evalLoop_fail_inv c e k env pt w _ _ hl
    exact ⟨[], rfl, .stop hr⟩
  | _ => cases h

/-- **`e?` returns nil or the operand's value**: the operand's value and end position when it matches, nil at the same position
    when it does not -/
theorem C01_shape_optional (k : Nat) (c : Ctx) (id : Nat) (e : Expr) (env env' : List (String × Val)) (pt pt' : Savepoint)
    (w w' : World) (v : Val) (h : evalStep E rec k c (.zeroOrOne id e) env pt w = .ok v pt' env' w') :
    (∃ env1, rec c e [] pt w = .ok v pt' env1 w') ∨ (v = .nil ∧ pt' = pt ∧ ∃ env1, rec c e [] pt w = .fail env1 w') := by
  rcases Res.on_eq_ok (r := rec c e [] pt w) h with ⟨_, _, env1, _, hr, h⟩ | ⟨env1, _, hr, h⟩ <;> cases h
  · exact .inl ⟨env1, hr⟩
  · exact .inr ⟨rfl, rfl, env1, hr⟩

/-- **an action returns what its code block returns**: when `e { code }` matches, its value is the return value of the call of the
    block in the scope `e` left, with `text` = the bytes `e` matched and `pos` = where it started -/
theorem C01_shape_action (k : Nat) (c : Ctx) (id blk : Nat) (e : Expr) (env env' : List (String × Val)) (pt pt' : Savepoint)
    (w w' : World) (v : Val) (h : evalStep E rec k c (.action id blk e) env pt w = .ok v pt' env' w') :
    ∃ v1 w1, rec c e env pt w = .ok v1 pt' env' w1 ∧
      v = (call E blk env' pt' { w1 with curPos := pt.pos, curText := slice E pt pt' }).1.ret := by
  dsimp only [evalStep] at h
  generalize hr : rec c e env pt w = r at h
  cases r with
  | ok v1 pt1 env1 w1 =>
    dsimp only at h
    generalize (call E blk _ _ _).fst.panic = q at h
    cases q <;> cases h
    exact ⟨v1, w1, rfl, rfl⟩
  | _ => cases h

end Spec
end PV
