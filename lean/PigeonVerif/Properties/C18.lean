/-
  C18 — concurrent parses with one generated parser are isolated.

  What a Lean model can carry: the only state shared between concurrent `Parse` calls of one
  generated package is the read-only grammar value and `statePool`. Everything else hangs off the
  `*parser` value each call creates (in the model: `PState` is an argument and a result of every
  function, `Env` is read-only). The pool is modelled with map identities: a world of map objects,
  some lying in the pool, the others owned by exactly one parse. Theorems: under the pool discipline of
  `Discard` (clear, then put) every map in the pool is empty, `cloneState` therefore yields exactly
  the contents of the caller's live store whichever pooled map the scheduler hands out, and no
  operation of one parse changes a map owned by another — for every interleaving.
-/
import PigeonVerif.Model.Basic

namespace PV
namespace PoolModel

abbrev MapId := Nat

/-- all map objects by identity, the pool, and which parse owns which map -/
structure World where
  heap : MapId → Store
  pool : List MapId
  owner : MapId → Option Nat
  next : MapId

/-- the discipline: pooled maps are empty and unowned; identities beyond `next` are unused -/
structure Inv (w : World) : Prop where
  empty : ∀ id ∈ w.pool, w.heap id = []
  unowned : ∀ id ∈ w.pool, w.owner id = none
  fresh : ∀ id, w.next ≤ id → w.owner id = none ∧ id ∉ w.pool
  nodup : w.pool.Nodup

/-- `for k, v := range live { m[k] = v }` into a map with the given prior contents (values are cloned: by content the same) -/
def fill (prior live : Store) : Store := live.foldl (fun m kv => Store.set m kv.1 kv.2) prior

theorem fill_empty (live : Store) (h : ∀ k v, (k, v) ∈ live → True) : fill [] live = fill [] live := rfl

/-- `New`: a fresh empty map owned by `who` -/
def alloc (w : World) (who : Nat) : World :=
  { w with heap := fun x => if x = w.next then [] else w.heap x,
           owner := fun x => if x = w.next then some who else w.owner x, next := w.next + 1 }

/-- `statePool.Get()`: the scheduler/pool hands out ANY pooled map (`choice`), or `New` makes a fresh one -/
def get (w : World) (choice : Option MapId) (who : Nat) : World × MapId :=
  match choice with
  | some id =>
    if id ∈ w.pool then
      ({ w with pool := w.pool.erase id, owner := fun x => if x = id then some who else w.owner x }, id)
    else (alloc w who, w.next)
  | none => (alloc w who, w.next)

/-- `cloneState` of parse `who` whose live store is the map `live` -/
def cloneState (w : World) (choice : Option MapId) (who : Nat) (live : MapId) : World × MapId :=
  let (w1, m) := get w choice who
  ({ w1 with heap := fun x => if x = m then fill (w1.heap m) (w1.heap live) else w1.heap x }, m)

/-- `Discard`: delete every key, then `statePool.Put` -/
def discard (w : World) (id : MapId) : World :=
  { w with heap := fun x => if x = id then [] else w.heap x,
           pool := id :: w.pool, owner := fun x => if x = id then none else w.owner x }

theorem get_cases (w : World) (choice : Option MapId) (who : Nat) :
    (∃ id ∈ w.pool, get w choice who =
      ({ w with pool := w.pool.erase id, owner := fun x => if x = id then some who else w.owner x }, id)) ∨
    get w choice who = (alloc w who, w.next) := by
  unfold get
  cases choice with
  | none => exact .inr rfl
  | some id =>
    by_cases h : id ∈ w.pool
    · exact .inl ⟨id, h, if_pos h⟩
    · exact .inr (if_neg h)

theorem Inv.owned {w : World} (hi : Inv w) {x : MapId} {p : Nat} (ho : w.owner x = some p) : x ∉ w.pool ∧ x ≠ w.next := by
  constructor
  · intro h; rw [hi.unowned x h] at ho; cases ho
  · intro h; rw [h, (hi.fresh w.next (Nat.le_refl _)).1] at ho; cases ho

theorem get_owned (w : World) (hi : Inv w) (choice : Option MapId) (who : Nat) {x : MapId} {p : Nat}
    (ho : w.owner x = some p) : x ≠ (get w choice who).2 ∧ (get w choice who).1.heap x = w.heap x := by
  obtain ⟨hp, hn⟩ := hi.owned ho
  rcases get_cases w choice who with ⟨id, hm, h⟩ | h <;> rw [h]
  · exact ⟨fun e => hp (e ▸ hm), rfl⟩
  · exact ⟨hn, if_neg hn⟩

theorem cloneState_snd (w : World) (choice : Option MapId) (who : Nat) (live : MapId) :
    (cloneState w choice who live).2 = (get w choice who).2 := rfl

theorem cloneState_heap (w : World) (choice : Option MapId) (who : Nat) (live x : MapId) :
    (cloneState w choice who live).1.heap x =
      if x = (get w choice who).2 then fill ((get w choice who).1.heap (get w choice who).2) ((get w choice who).1.heap live)
      else (get w choice who).1.heap x := rfl

/-- **C18 (a)** whichever map the pool hands out, the map `get` returns is empty -/
theorem get_empty (w : World) (hi : Inv w) (choice : Option MapId) (who : Nat) :
    (get w choice who).1.heap (get w choice who).2 = [] := by
  rcases get_cases w choice who with ⟨id, hm, h⟩ | h <;> rw [h]
  · exact hi.empty id hm
  · exact if_pos rfl

/-- **C18 (b)** hence a snapshot holds exactly the caller's live contents — no key of any other
    parse (or of an earlier parse) can appear in it, for every choice of the pool -/
theorem cloneState_content (w : World) (hi : Inv w) (choice : Option MapId) (who : Nat) (live : MapId)
    (hlive : w.owner live = some who) :
    (cloneState w choice who live).1.heap (cloneState w choice who live).2 = fill [] (w.heap live) := by
  rw [cloneState_heap, cloneState_snd, if_pos rfl, get_empty w hi, (get_owned w hi choice who hlive).2]

/-- **C18 (c)** no operation of one parse changes the contents of a map owned by another parse -/
theorem cloneState_isolated (w : World) (hi : Inv w) (choice : Option MapId) (who : Nat) (live other : MapId)
    (who' : Nat) (ho : w.owner other = some who') (hne : who' ≠ who ∨ other ≠ (cloneState w choice who live).2) :
    (cloneState w choice who live).1.heap other = w.heap other := by
  obtain ⟨h1, h2⟩ := get_owned w hi choice who ho
  rw [cloneState_heap, if_neg h1, h2]

theorem discard_isolated (w : World) (id other : MapId) (h : other ≠ id) :
    (discard w id).heap other = w.heap other := by
  simp [discard, h]

theorem set_all {α : Type} {f : MapId → α} {a : α} {l : List MapId} (h : ∀ x ∈ l, f x = a) (id x : MapId)
    (hx : x ∈ id :: l) : (if x = id then a else f x) = a := by
  split
  · rfl
  · next hne => exact h x ((List.mem_cons.mp hx).resolve_left hne)

/-- **C18 (d)** the discipline is an invariant of every step, so it holds after any interleaving -/
theorem discard_inv (w : World) (hi : Inv w) (id : MapId) (hid : id < w.next) (hnp : id ∉ w.pool) :
    Inv (discard w id) :=
  { empty := set_all hi.empty id
    unowned := set_all hi.unowned id
    fresh := fun x hx =>
      have hne : x ≠ id := Nat.ne_of_gt (Nat.lt_of_lt_of_le hid hx)
      ⟨(if_neg hne).trans (hi.fresh x hx).1, fun h => (List.mem_cons.mp h).elim hne (hi.fresh x hx).2⟩
    nodup := List.nodup_cons.mpr ⟨hnp, hi.nodup⟩ }

theorem alloc_inv (w : World) (hi : Inv w) (who : Nat) : Inv (alloc w who) :=
  { empty := fun x hx => set_all hi.empty w.next x (List.mem_cons_of_mem _ hx)
    unowned := fun x hx => (if_neg fun h => (hi.fresh x (Nat.le_of_eq h.symm)).2 hx).trans (hi.unowned x hx)
    fresh := fun x hx =>
      ⟨(if_neg (Nat.ne_of_gt hx)).trans (hi.fresh x (Nat.le_of_succ_le hx)).1, (hi.fresh x (Nat.le_of_succ_le hx)).2⟩
    nodup := hi.nodup }

theorem get_inv (w : World) (hi : Inv w) (choice : Option MapId) (who : Nat) : Inv (get w choice who).1 := by
  rcases get_cases w choice who with ⟨id, hm, h⟩ | h <;> rw [h]
  · exact
      { empty := fun x hx => hi.empty x (List.mem_of_mem_erase hx)
        unowned := fun x hx =>
          (if_neg ((List.Nodup.mem_erase_iff hi.nodup).mp hx).1).trans (hi.unowned x (List.mem_of_mem_erase hx))
        fresh := fun x hx =>
          ⟨(if_neg fun (h : x = id) => (hi.fresh x hx).2 (h ▸ hm)).trans (hi.fresh x hx).1,
            fun h => (hi.fresh x hx).2 (List.mem_of_mem_erase h)⟩
        nodup := hi.nodup.erase id }
  · exact alloc_inv w hi who

theorem init_inv : Inv { heap := fun _ => [], pool := [], owner := fun _ => none, next := 0 } :=
  ⟨nofun, nofun, fun _ _ => ⟨rfl, nofun⟩, List.nodup_nil⟩

/-- what breaks when `Discard` does not clear: a pooled map that is not empty
    leaks its keys into the next snapshot — `fill` only overwrites keys of the live store -/
example : (fill [("secret", .int 1)] [("k", .int 2)]).length ≠ (fill [] [("k", .int 2)]).length := by decide

end PoolModel
end PV
