/-
  C06 — Memoize, Debug, Statistics never change results; Memoize bounds work.

  The theorems about the table itself are in `C06Base.lean` (audited with this file): memo-table soundness
  `C06_memoize_same_result_partial` (two-run simulation), the packrat bound `C06_packrat_bound_partial`, the discipline lemmas,
  the kernel witnesses of the findings D7 and D27. This file adds the composition with the whole-parse contract:

  C06 ∘ C11: a memoized parse computes the PEG specification's result.

  `C06_memoize_same_result_partial` ties Memoize(true) to Memoize(false); `C11_parse_contract` ties Memoize(false) to the
  independent PEG semantics `Spec.run`. Composed: on the domain of the C06 theorem (pure code without label arguments, unique
  node identifiers, no throw / recover, no left recursion, no budget) the MEMOIZED parser returns what the specification
  prescribes - the table, its keys, the hits and their savepoints have no observable effect at all.
-/
import PigeonVerif.Properties.C06Base
import PigeonVerif.Properties.C11

namespace PV
namespace RT

theorem findRule_setMemo (E : Env) (m : Bool) (n : String) : (setMemo E m).findRule n = E.findRule n := rfl

/-- **C06 (d'), partial — the memoized parser implements the PEG specification.** -/
theorem C06_memoized_parse_is_peg_partial (E : Env) (own : Nat → Option String) (node : Nat → Option Expr)
    (isPred : Nat → Bool) (hc : MemoCfg E) (hp : PureCode E isPred)
    (hG : ∀ n r, E.findRule n = some r → r.expr.Ok own node isPred n)
    (hnolr : ∀ n r, E.findRule n = some r → r.leftRecursive = false ∧ r.leader = false)
    (fM fN : Nat) (hle : fN ≤ fM) (v : Val) (errs : List String)
    (hspec : Spec.run (setMemo E false) fN = .ret v errs) :
    ∃ errs1 s1, parse (setMemo E true) fM = .ret v errs1 s1 ∧
      (errs1 = errs ∨ ∃ m1 m2, errs1 = [m1] ∧ errs = [m2] ∧ v = .nil) := by
  have hplain : Plain (setMemo E false) := ⟨rfl, hc.nobudget, fun n r h => hnolr n r h⟩
  obtain ⟨s2, hp2⟩ := Final.view_eq_ret ((C11_parse_contract (setMemo E false) hplain fN).trans hspec)
  exact C06_memoize_same_result_partial E own node isPred hc hp hG fM fN hle v errs s2 hp2

end RT
end PV
