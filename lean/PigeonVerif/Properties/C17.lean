/-
  C17 — invalid UTF-8 is reported by default and matched bytewise when allowed.
  (`wellFormed`, Table 3-7, and the decoder's soundness `decodeRune_sound`: `Proofs/Utf8.lean`.)
-/
import PigeonVerif.Proofs.Utf8
import PigeonVerif.Proofs.Interp

namespace PV

/-- **C17 (a)** end of input: width 0 -/
theorem C17_decode_eof : decodeRune [] = (runeError, 0) := rfl

/-- **C17 (b)** Every result of the decoder is either end of input, or the one-byte rune U+FFFD,
    or a rune of width `n` whose `n` bytes are a well-formed UTF-8 sequence. Hence every byte that
    does not start a well-formed sequence — truncated sequences, overlongs (C0/C1, E0 80.., F0 80..),
    surrogates (ED A0..), > U+10FFFF (F4 90.., F5..), stray continuation bytes — is a one-byte U+FFFD. -/
theorem C17_decode_sound (bs : List Nat) (r : Rune) (n : Nat) (h : decodeRune bs = (r, n)) :
    (n = 0 ∧ bs = []) ∨ (r = runeError ∧ n = 1 ∧ bs ≠ []) ∨
      (wellFormed (bs.take n) = true ∧ n ≤ bs.length) := by
  cases bs with
  | nil => cases h; exact .inl ⟨rfl, rfl⟩
  | cons p0 rest =>
    rcases h ▸ decodeRune_sound p0 rest with hs | hs
    · cases hs; exact .inr (.inl ⟨rfl, rfl, List.cons_ne_nil _ _⟩)
    · exact .inr (.inr hs)

/-- the error rune with width 1 is returned only for a byte ≥ 0x80, i.e. never for ASCII -/
theorem C17_invalid_not_ascii (p0 : Nat) (rest : List Nat) (h : decodeRune (p0 :: rest) = (runeError, 1)) :
    0x80 ≤ p0 := by
  refine Nat.le_of_not_lt fun h0 => ?_
  rw [decodeRune_ascii rest h0] at h
  cases h
  exact absurd h0 (by decide)

namespace RT

/-- **C17 (c)** `read` records `invalid encoding` at the byte's own position exactly when the
    decoder returns the one-byte error rune and `AllowInvalidUTF8` is off; never otherwise. -/
theorem C17_reported (E : Env) (s : PState) :
    (read E s).errs =
      if (decodeRune (E.input.drop (s.pt.pos.off + s.pt.w))) = (runeError, 1) ∧ E.opts.allowInvalid = false
      then s.errs ++ [errPrefix E (read E s) (read E s).pt.pos ++ ": " ++ "invalid encoding"]
      else s.errs := by
  have hc : (decodeRune (E.input.drop (s.pt.pos.off + s.pt.w)) = (runeError, 1) ∧ E.opts.allowInvalid = false) ↔
      ((nextPt E.input s.pt).rn = runeError ∧ (nextPt E.input s.pt).w = 1 ∧ E.opts.allowInvalid = false) := by
    rw [(nextPt_rn_w _ _).1, (nextPt_rn_w _ _).2, Prod.ext_iff, and_assoc]
  have hr := read_eq E s
  by_cases h : decodeRune (E.input.drop (s.pt.pos.off + s.pt.w)) = (runeError, 1) ∧ E.opts.allowInvalid = false
  · rw [if_pos (hc.mp h)] at hr; rw [if_pos h, hr]; rfl
  · rw [if_neg (mt hc.mpr h)] at hr; rw [if_neg h, hr]

theorem C17_allowed_never_reported (E : Env) (s : PState) (h : E.opts.allowInvalid = true) :
    (read E s).errs = s.errs := by
  rw [C17_reported]; simp [h]

/-- **C17 (d)** offsets count bytes: `read` advances by exactly the width of the previous rune, and
    the new width is the decoder's (so an invalid byte advances by one). -/
theorem C17_read_offset (E : Env) (s : PState) :
    (read E s).pt.pos.off = s.pt.pos.off + s.pt.w ∧
    (read E s).pt.w = (decodeRune (E.input.drop (s.pt.pos.off + s.pt.w))).2 := by
  rw [read_pt]; exact ⟨nextPt_off _ _, (nextPt_rn_w _ _).2⟩

/-- **C17 (e)** the any matcher consumes an invalid byte (it only refuses end of input), and the
    value is the original byte. -/
theorem C17_any_matches_invalid (E : Env) (s : PState) (h : s.pt.w ≠ 0) :
    ∃ s', parseAny E s = .done (.bytes (sliceFrom E (read E s) s.pt)) true s' :=
  ⟨_, if_neg (by simp [h])⟩

/-- matched values and `text` are slices of the input -/
theorem C17_slices (E : Env) (s : PState) (start : Savepoint) :
    sliceFrom E s start = (E.input.drop start.pos.off).take (s.pt.pos.off - start.pos.off) := rfl

end RT
end PV
