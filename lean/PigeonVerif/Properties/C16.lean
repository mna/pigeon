/-
  C16 — MaxExpressions bounds every parse.
-/
import PigeonVerif.Proofs.FuelMono
import PigeonVerif.Proofs.TermMemo
import PigeonVerif.Proofs.BudgetTransparent

namespace PV
namespace RT

/-- **C16 (a)** With `MaxExpressions(n)`: every normal return happens with at most `n` expressions
    evaluated; a panic (budget or code block) is raised with at most `n+1` counted. Holds under
    every other option (Memoize, left recursion, …). -/
theorem C16_bound (E : Env) (n : Nat) (hn : E.opts.maxExpr = some n) (f : Nat) (e : Expr) (s : PState)
    (hm : MemoOK s) (hs : s.exprCnt ≤ n) :
    match parseExpr E f e s with
    | .oof => True
    | .done _ _ s' => s'.exprCnt ≤ n
    | .panic _ s' => s'.exprCnt ≤ n + 1 := by
  exact Outcome.Sat.mono (parseExpr_frame E f e s hm) (fun _ _ _ h => h.stk.bnd n hn hs) (fun _ h => h.bnd n hn hs)

/-- **C16 (b)** The budget panic is the documented error, and it is raised exactly when the
    counter passes the budget. -/
theorem C16_reports (E : Env) (n : Nat) (hn : E.opts.maxExpr = some n) (rec : Expr → PState → Outcome)
    (k : Nat) (e : Expr) (s : PState) (h : s.exprCnt ≥ n) :
    parseExprStep E rec k e s = .panic (.err "max number of expressions parsed") (bump s) := by
  unfold parseExprStep
  rw [if_pos ((overBudget_iff hn _).2 (Nat.lt_succ_of_le h))]; rfl

/-- **C16 (c)** While the budget is not exceeded the budgeted parser does exactly what the
    unbudgeted one does at that step (the check is the only difference). -/
theorem C16_transparent_step (E : Env) (rec : Expr → PState → Outcome) (k : Nat) (e : Expr) (s : PState)
    (h : overBudget E (bump s) = false) :
    parseExprStep E rec k e s = parseExprBody E rec k e (bump s) := by
  unfold parseExprStep; rw [if_neg (by simp [h])]

/-- exprCnt never decreases (so "at most n evaluated" is about the whole parse) -/
theorem C16_monotone (E : Env) (f : Nat) (e : Expr) (s s' : PState) (v : Val) (ok : Bool)
    (hm : MemoOK s) (h : parseExpr E f e s = .done v ok s') : s.exprCnt ≤ s'.exprCnt :=
  (parseExpr_framed hm h).stk.cnt

/-- **C16 (d)** Termination: with `MaxExpressions(n)` and `Memoize(false)` every parse — of any
    grammar, including ones whose repetitions can iterate without consuming input and
    left-recursive ones — returns: with fuel `≥ n + 2` the model never runs out of fuel. -/
theorem C16_terminates (E : Env) (n : Nat) (hn : E.opts.maxExpr = some n)
    (hmz : E.opts.memoize = false) (fuel : Nat) (hf : n + 2 ≤ fuel) :
    parse E fuel ≠ .oof :=
  parse_terminates E (m := 0) hn (fun h => Bool.noConfusion ((memoize_off hmz).symm.trans h)) fuel hf

/-- **C16 (e)** The fuel of the model is only a recursion device: once a parse returns, every larger
    fuel returns the same final result — in every configuration (memoization, left recursion,
    with or without a budget). -/
theorem C16_result_independent_of_fuel (E : Env) (f f' : Nat) (hf : f ≤ f') (hne : parse E f ≠ .oof) :
    parse E f' = parse E f := parse_mono E hf hne

/-- **C16 (f)** Under a budget (Memoize off) the parse is a TOTAL function of grammar, options
    and input: the result exists (fuel `n + 2`) and no fuel gives another one. -/
theorem C16_parse_total (E : Env) (n : Nat) (hn : E.opts.maxExpr = some n) (hmz : E.opts.memoize = false)
    (fuel : Nat) (hf : n + 2 ≤ fuel) : parse E fuel = parse E (n + 2) ∧ parse E (n + 2) ≠ .oof :=
  have h := C16_terminates E n hn hmz (n + 2) (Nat.le_refl _)
  ⟨parse_mono E hf h, h⟩

/-- **C16 (g)** Termination under EVERY combination of the other runtime options: with
    `MaxExpressions(n)` every parse returns, Memoize on or off (and Debug, Statistics, Recover,
    AllowInvalidUTF8, entrypoints, all template switches, left recursion): fuel `2n + 2` suffices.
    The measure is `exprCnt + memoHits`: an evaluation charges the first, a memo hit the second
    (Proofs/TermMemo.lean); that hits are charged is the repair of finding D15 (fix: 131375c): with
    free hits `("a"?)*` with Memoize spins on cache hits for ever. -/
theorem C16_terminates_any_options (E : Env) (n : Nat) (hn : E.opts.maxExpr = some n) (fuel : Nat)
    (hf : 2 * n + 2 ≤ fuel) : parse E fuel ≠ .oof :=
  parse_terminates E hn (fun _ => Nat.le_refl n) fuel (Nat.two_mul n ▸ hf)

/-- the parse is a total function of grammar, options and input under any budget -/
theorem C16_parse_total_any_options (E : Env) (n : Nat) (hn : E.opts.maxExpr = some n) (fuel : Nat)
    (hf : 2 * n + 2 ≤ fuel) : parse E fuel = parse E (2 * n + 2) ∧ parse E (2 * n + 2) ≠ .oof :=
  have h := C16_terminates_any_options E n hn _ (Nat.le_refl _)
  ⟨parse_mono E hf h, h⟩

/-- **C16 (h) — "with a budget that is not exhausted the result is identical to the unbounded parse".** EVERY grammar, code
    environment, template variant and option set (Memoize, left recursion, Recover, …), every input and depth: if `Parse`
    with `MaxExpressions(n)` returns a result whose error list does not report the budget error, then `Parse` WITHOUT
    `MaxExpressions` returns exactly the same result - value, error list, and final parser state (counters included).
    (`Proofs/BudgetTransparent.lean`: the budget is read in two places, both raise a panic nothing catches.) -/
theorem C16_unexhausted_budget_is_transparent (E : Env) (f : Nat) (v : Val) (errs : List String) (s : PState)
    (h : parse E f = .ret v errs s) (hno : ∀ m ∈ errs, ∀ p : String, m ≠ p ++ ": " ++ errMaxExprCnt) :
    parse (withoutBudget E) f = .ret v errs s := by
  have hT : SameTop E (withoutBudget E) := ⟨.withoutBudget E, rfl, rfl, rfl⟩
  rw [← h]
  refine hT.parse not_bp_done (budgetFollows_nb E) 0 (fun _ => rfl) fun r he => ?_
  rw [parse_eq, he] at h
  exact not_bp_of_finish h hno

/-- the hypothesis is met whenever the parse succeeded without errors (`errs = []`), and by every error list that does not
    mention the budget -/
example (E : Env) (f : Nat) (v : Val) (s : PState) (h : parse E f = .ret v [] s) : parse (withoutBudget E) f = .ret v [] s :=
  C16_unexhausted_budget_is_transparent E f v [] s h (fun m hm => by simp at hm)

end RT
end PV
