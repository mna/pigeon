/-
  C19 — generation is deterministic (the part that depends on the grammar analysis).
-/
import PigeonVerif.Proofs.LROrder

namespace PV

/-- **C19 (a)** The order in which `ComputeNullables` visits the rules — the sorted rule names —
    does not depend on the order in which the map hands them out: sorting any permutation of the
    names gives the same list. -/
theorem C19_sorted_order_invariant (l1 l2 : List String) (h : l1.Perm l2) : sortStrs l1 = sortStrs l2 := by
  apply List.Perm.eq_of_pairwise (le := (· ≤ ·))
  · intro a b _ _ h1 h2; exact String.le_antisymm h1 h2
  · exact sortStrs_sorted l1
  · exact sortStrs_sorted l2
  · exact (sortStrs_perm l1).trans (h.trans (sortStrs_perm l2).symm)

namespace Mid

/-- `ComputeNullables` with the repair of finding D16: visit in sorted order -/
def computeNullablesSorted (cfg : Cfg) (G : AGrammar) (mapOrder : List String) : Option AGrammar :=
  computeNullables cfg G (sortStrs mapOrder)

theorem C19_analysis_order_free_nullables (cfg : Cfg) (G : AGrammar) (o1 o2 : List String) (h : o1.Perm o2) :
    computeNullablesSorted cfg G o1 = computeNullablesSorted cfg G o2 :=
  congrArg (computeNullables cfg G) (C19_sorted_order_invariant o1 o2 h)

/-- **C19 (b)** the analysis result is a function of the grammar alone: any two map iteration
    orders give the same flags, first graph, left-recursive set, leader and verdict. -/
theorem C19_analysis_order_free (cfg : Cfg) (G : AGrammar) (o1 o2 : List String) (h : o1.Perm o2) :
    (computeNullablesSorted cfg G o1).map (computeLeftRecursives cfg) =
    (computeNullablesSorted cfg G o2).map (computeLeftRecursives cfg) :=
  congrArg _ (C19_analysis_order_free_nullables cfg G o1 o2 h)

/-- **C19 (c): the leader of a component does not depend on any iteration order.**  `findLeader` ranges over Go maps
    three times (start vertices, successors in the path search, surviving candidates); in the model an iteration
    order is the order of a list.  Any two enumerations of the same component (`SameMem`, same number of keys) over
    adjacency structures with the same successor SETS (`SameSuccs`) choose the same leader, or both none. -/
theorem C19_leader_choice_order_free {g1 g2 : Graph} {scc1 scc2 : List String} (hg : SameSuccs g1 g2)
    (hs : SameMem scc1 scc2) (hl : scc1.length = scc2.length) : findLeader g1 scc1 = findLeader g2 scc2 :=
  findLeader_order_free hg hs hl

/-- **C19 (d): `ComputeLeftRecursives` is a function of the first graph as a set.**  Whatever order the map of the first
    graph hands its keys out in (`verts2`), and whatever order every successor map is ranged over (`g2`), the
    `leftRecursive` / `leader` marks left on EVERY rule and the verdict (no left recursion / left recursion / a component
    without a leader) are those of the model's own enumeration — several components, several cycles, ties between
    leader candidates included.  Proof: the loop has a closed form (`computeLRWith_closed_form`: a rule in a handled
    component carries `markOf`, which only looks at its component and that component's leader), components are
    equivalence classes, and (c). -/
theorem C19_left_recursion_marks_order_free (cfg : Cfg) (G : AGrammar) (g2 : Graph) (verts2 : List String)
    (h2 : GraphOK g2) (hs : SameSuccs (firstGraph cfg G) g2)
    (hv : SameMem ((firstGraph cfg G).map (·.1)) verts2) :
    computeLRWith g2 verts2 G = computeLeftRecursives cfg G :=
  (computeLRWith_order_free (firstGraph_ok cfg G) h2 hs hv G).symm

/-- (b) and (d) together: **the whole analysis** — nullable flags, first graph, marks, leader, verdict — is the same
    for any order in which `ComputeNullables` receives the rule names and any enumeration of the vertices. -/
theorem C19_analysis_is_a_function_of_the_grammar (cfg : Cfg) (G : AGrammar) (o1 o2 : List String) (h : o1.Perm o2)
    (enum : AGrammar → List String)
    (he : ∀ G', SameMem ((firstGraph cfg G').map (·.1)) (enum G')) :
    (computeNullablesSorted cfg G o1).map (fun G' => computeLRWith (firstGraph cfg G') (enum G') G') =
    (computeNullablesSorted cfg G o2).map (computeLeftRecursives cfg) := by
  rw [C19_analysis_order_free_nullables cfg G o1 o2 h]
  congr 1
  funext G'
  exact C19_left_recursion_marks_order_free cfg G' _ _ (firstGraph_ok cfg G') (fun _ => SameMem.refl _) (he G')

/-- the hypotheses are satisfiable by something that is not the model's own order: the vertices in reverse -/
example (cfg : Cfg) (G : AGrammar) :
    computeLRWith (firstGraph cfg G) ((firstGraph cfg G).map (·.1)).reverse G = computeLeftRecursives cfg G :=
  C19_left_recursion_marks_order_free cfg G _ _ (firstGraph_ok cfg G) (fun _ => SameMem.refl _)
    (fun x => by simp)

def marks (r : AGrammar × Verdict) : List (String × Bool × Bool) × Verdict :=
  (r.1.map (fun x => (x.name, x.leftRecursive, x.leader)), r.2)

def g5 : AGrammar :=
  [{ name := "A", expr := .any }, { name := "B", expr := .any }, { name := "C", expr := .any },
   { name := "D", expr := .any }, { name := "E", expr := .any }]

/-- a concrete instance evaluated by the kernel: a three-rule component with two cycles through `A`, a self-loop
    and an isolated vertex, the adjacency lists and the vertex list reversed -/
example :
    marks (computeLRWith [("A", ["B", "C"]), ("B", ["A"]), ("C", ["A"]), ("D", ["D"]), ("E", [])]
      ["A", "B", "C", "D", "E"] g5) =
    ([("A", true, true), ("B", true, false), ("C", true, false), ("D", true, true), ("E", false, false)], .ok true) ∧
    marks (computeLRWith [("E", []), ("D", ["D"]), ("C", ["A"]), ("B", ["A"]), ("A", ["C", "B"])]
      ["E", "D", "C", "B", "A"] g5) =
    ([("A", true, true), ("B", true, false), ("C", true, false), ("D", true, true), ("E", false, false)], .ok true) := by
  decide +kernel

def cfgBeforeFixes : Cfg := { visitOperands := false, predNames := false, emptyClassNotNullable := false }
def cfgNow : Cfg := { visitOperands := true, predNames := true, emptyClassNotNullable := true }

/-- X <- Y / ""; Y <- X Z; Z <- Y 'z' / 'q' -/
def gD16 : AGrammar := [
  { name := "X", expr := .choice false [.ref false "Y", .lit true] },
  { name := "Y", expr := .seq false [.ref false "X", .ref false "Z"] },
  { name := "Z", expr := .choice false [.seq false [.ref false "Y", .lit false], .lit false] }]

/-- Why the repair of finding D16 is needed: WITHOUT a fixed visiting order the result
    depends on it — two orders give different leaders for this grammar, with the other repairs (`cfgNow`) and without
    them (`C19_order_mattered_before_fix`). The unrestricted statement "the analysis is independent of the visiting order" is false. -/
theorem C19_order_matters_without_sorting :
    ((prepare cfgNow gD16 ["X", "Y", "Z"]).map (fun r => r.1.map (·.leader))) ≠
    ((prepare cfgNow gD16 ["Z", "Y", "X"]).map (fun r => r.1.map (·.leader))) := by decide +kernel

theorem C19_order_mattered_before_fix :
    ((prepare cfgBeforeFixes gD16 ["X", "Y", "Z"]).map (fun r => r.1.map (·.leader))) ≠
    ((prepare cfgBeforeFixes gD16 ["Z", "Y", "X"]).map (fun r => r.1.map (·.leader))) := by decide +kernel

end Mid
end PV
