/-
  C12 — a failed parse reports the farthest failure position and the exact expected set: the bookkeeping of `failAt`
  against its declarative description, the synthesised message, finding D30, and the runtime's record as a function of
  the log of terminal evaluations. `Properties/C12.lean` reads the report off the whole-parse contract (C11).
-/
import PigeonVerif.Properties.C11Base
import PigeonVerif.Proofs.FailLog

namespace PV

/-- one effective `failAt` call on the pair (farthest offset, expected labels — most recent first) -/
def failStep (st : Nat × List String) (ev : Nat × String) : Nat × List String :=
  if ev.1 < st.1 then st
  else if ev.1 > st.1 then (ev.1, [ev.2])
  else (st.1, ev.2 :: st.2)

/-- declarative: the greatest offset of any event (or the initial one) -/
def farthest (m0 : Nat) (evs : List (Nat × String)) : Nat := evs.foldl (fun m e => max m e.1) m0

/-- declarative: the labels of the events at offset `m`, in order -/
def labelsAt (m : Nat) (evs : List (Nat × String)) : List String :=
  (evs.filter (fun e => e.1 = m)).map (·.2)

theorem farthest_ge (m0 : Nat) (evs : List (Nat × String)) : m0 ≤ farthest m0 evs := by
  induction evs generalizing m0 with
  | nil => exact Nat.le_refl _
  | cons e es ih => exact Nat.le_trans (Nat.le_max_left _ _) (ih (max m0 e.1))

theorem farthest_mono {a b : Nat} (h : a ≤ b) (evs : List (Nat × String)) :
    farthest a evs ≤ farthest b evs := by
  induction evs generalizing a b with
  | nil => exact h
  | cons e es ih => exact ih (Nat.max_le.2 ⟨Nat.le_trans h (Nat.le_max_left ..), Nat.le_max_right ..⟩)

theorem labelsAt_cons (m : Nat) (e : Nat × String) (es : List (Nat × String)) :
    labelsAt m (e :: es) = (if e.1 = m then [e.2] else []) ++ labelsAt m es := by
  unfold labelsAt
  by_cases h : e.1 = m <;> simp [h]

theorem labelsAt_none (m : Nat) (evs : List (Nat × String)) (h : ∀ e ∈ evs, e.1 < m) : labelsAt m evs = [] := by
  induction evs with
  | nil => rfl
  | cons e es ih =>
    rw [labelsAt_cons, if_neg (Nat.ne_of_lt (h e List.mem_cons_self)), ih fun e' he => h e' (List.mem_cons_of_mem _ he)]
    rfl

theorem failStep_eq (m0 : Nat) (e0 : List String) (off : Nat) (w : String) :
    failStep (m0, e0) (off, w) =
      (max m0 off, (if off = max m0 off then [w] else []) ++ (if max m0 off = m0 then e0 else [])) := by
  unfold failStep
  rcases Nat.lt_trichotomy off m0 with h | h | h
  · have hm : max m0 off = m0 := Nat.max_eq_left (Nat.le_of_lt h)
    simp [h, hm, Nat.ne_of_lt h]
  · subst h; simp
  · have hm : max m0 off = off := Nat.max_eq_right (Nat.le_of_lt h)
    simp [h, hm, Nat.lt_asymm h, Nat.ne_of_gt h]

/-- **C12 (a)** Folding `failAt` over any sequence of terminal-failure events yields exactly the
    greatest offset and the labels of the events at that offset (in order of occurrence), whatever
    happened at smaller offsets in between. -/
theorem C12_bookkeeping (evs : List (Nat × String)) (m0 : Nat) (e0 : List String) :
    evs.foldl failStep (m0, e0) =
      (farthest m0 evs,
       (labelsAt (farthest m0 evs) evs).reverse ++ (if farthest m0 evs = m0 then e0 else [])) := by
  induction evs generalizing m0 e0 with
  | nil => simp [farthest, labelsAt]
  | cons e es ih =>
    obtain ⟨off, w⟩ := e
    have hf : farthest m0 ((off, w) :: es) = farthest (max m0 off) es := rfl
    have hge := farthest_ge (max m0 off) es
    rw [List.foldl_cons, failStep_eq, ih, labelsAt_cons, hf]
    generalize farthest (max m0 off) es = F at hge
    -- beyond `max m0 off` neither the new event nor the initial labels are at the farthest offset
    by_cases hF : F = max m0 off
    · subst hF
      rw [if_pos rfl, List.reverse_append, List.append_assoc]
      split <;> rfl
    · have hlt := Nat.lt_of_le_of_ne hge (Ne.symm hF)
      rw [if_neg hF, if_neg (Nat.ne_of_lt (Nat.lt_of_le_of_lt (Nat.le_max_right ..) hlt)),
        if_neg (Nat.ne_of_gt (Nat.lt_of_le_of_lt (Nat.le_max_left ..) hlt))]
      rfl

theorem noteStep_failStep (st : Pos × List String) (a : Attempt) :
    ((noteStep st a).1.off, (noteStep st a).2) =
      if a.counts then failStep (st.1.off, st.2) (a.pos.off, a.label) else (st.1.off, st.2) :=
  let R (x : Pos × List String) (y : Nat × List String) := (x.1.off, x.2) = y
  ite_rel (R := R) (fun _ => ite_rel (R := R) (fun _ => rfl) fun _ => ite_rel (R := R) (fun _ => rfl) fun _ => rfl) fun _ => rfl

namespace RT

/-- `failAt` is `failStep` on the (offset, expected) pair when the event counts, and the identity
    otherwise; under a `!` the label is prefixed with `!`. -/
theorem C12_failAt_is_failStep (s : PState) (fail : Bool) (pos : Pos) (want : String) :
    ((failAt s fail pos want).maxFailPos.off, (failAt s fail pos want).maxFailExpected) =
      if fail == s.maxFailInvert then
        failStep (s.maxFailPos.off, s.maxFailExpected)
          (pos.off, if s.maxFailInvert then "!" ++ want else want)
      else (s.maxFailPos.off, s.maxFailExpected) :=
  (congrArg (fun p : Pos × List String => (p.1.off, p.2)) (failAt_step s fail pos want).1).trans (noteStep_failStep _ _)

/-- when the farthest offset moves, the recorded position is the event's own position -/
theorem C12_failAt_pos (s : PState) (fail : Bool) (pos : Pos) (want : String)
    (h : (fail == s.maxFailInvert) = true) (h2 : pos.off > s.maxFailPos.off) :
    (failAt s fail pos want).maxFailPos = pos := by
  unfold failAt failAtCore
  simp [h, h2, Nat.lt_asymm h2]

end RT

/-- **C12 (b)** the expected list is sorted -/
theorem C12_sorted (l : List String) : (sortStrs l).Pairwise (· ≤ ·) := sortStrs_sorted l

/-- the expected list lists exactly the recorded labels (end of input, recorded as `!.`, is shown as `EOF`, last) -/
theorem C12_expected_members (expected : List String) (x : String) (hx : x ≠ "EOF") :
    x ∈ (RT.noMatchMessage expected).2 ↔ (x ∈ expected ∧ x ≠ "!.") := by
  unfold RT.noMatchMessage
  simp only []
  split
  · simp [mem_sortStrs, C11_dedupe_mem, hx]
  · simp [mem_sortStrs, C11_dedupe_mem]

theorem C12_eof_last (expected : List String) (h : "!." ∈ expected) :
    (RT.noMatchMessage expected).2.getLast? = some "EOF" := by
  unfold RT.noMatchMessage
  have : "!." ∈ dedupe expected := (C11_dedupe_mem expected "!.").mpr h
  simp [this]

/-- the message is the documented text -/
theorem C12_message_text (expected : List String) :
    (RT.noMatchMessage expected).1 = "no match found, expected: " ++ listJoin (RT.noMatchMessage expected).2 := by
  unfold RT.noMatchMessage; rfl

namespace RT

/-- **C12 (c)** When the start rule fails and nothing was recorded, `parse` returns exactly one
    error: the synthesised message at the farthest-failure position. -/
theorem C12_single (E : Env) (v : Val) (s : PState) (h : s.errs = []) :
    finish E (.done v false s) =
      .ret .nil [errPrefix E s s.maxFailPos ++ ": " ++ (noMatchMessage s.maxFailExpected.reverse).1]
        (addErrAt E s (noMatchMessage s.maxFailExpected.reverse).1 s.maxFailPos) := by
  simp [finish, h, addErrAt, dedupe_singleton]

/-- when code blocks (or the decoder) recorded errors, no message is synthesised -/
theorem C12_not_synthesised (E : Env) (v : Val) (s : PState) (h : s.errs ≠ []) :
    finish E (.done v false s) = .ret .nil (dedupe s.errs) s := by
  simp [finish, List.isEmpty_eq_false_iff.2 h]

namespace WitnessC12

def lit (id : Nat) (s : String) : Expr := .lit id (s.toList.map (·.toNat)) false ("\"" ++ s ++ "\"")

/-- `S <- !X "q" / X "z"` ; `X <- "a"` -/
def rulesD30 : List Rule :=
  [ { name := "S", displayName := "", leader := false, leftRecursive := false,
      expr := .choice 1 1 6 [.seq 2 [.not 3 (.ruleRef 4 "X"), lit 5 "q"], .seq 6 [.ruleRef 7 "X", lit 8 "z"]] },
    { name := "X", displayName := "", leader := false, leftRecursive := false, expr := lit 9 "a" } ]

def envD30 (memo : Bool) : Env :=
  { flags := { optimize := false, globalState := false, leftRec := false, basicLatin := false },
    opts := { memoize := memo }, rules := rulesD30,
    code := { args := fun _ => [], run := fun _ ctx => { state := ctx.state, global := ctx.global } },
    toLower := id, input := "b".toList.map (·.toNat) }

def errsOf : Final → Option (List String)
  | .ret _ errs _ => some errs
  | _ => none

/-- **Finding D30 on the model** (genuine defect of the unchanged tree, reproduced on the real parser): on input `b` both
    `"a"` (the rule `X`, tried by the second alternative) and `"q"` fail at offset 0. The plain parser reports both. With
    `Memoize(true)` the second evaluation of `X` at offset 0 is a memo hit - `X` was evaluated there inside the `!` of the
    first alternative, where a FAILING terminal is not recorded - and a memo hit does not replay `failAt`: `"a"` is missing
    from the expected set, although it is a terminal that failed at the reported offset outside any predicate. -/
theorem C12_D30_memo_hit_drops_an_expected_terminal :
    errsOf (parse (envD30 false) 40) = some ["1:1 (0): no match found, expected: \"a\" or \"q\""] ∧
    errsOf (parse (envD30 true) 40) = some ["1:1 (0): no match found, expected: \"q\""] := by
  decide +kernel

end WitnessC12

end RT

/-! ### the report is a function of the terminal evaluations of the PEG semantics

  WHICH events reach `failAt`:

  * In every configuration (memoization, left recursion, budget, all template switches) the record
    `(maxFailPos, maxFailExpected)` is the bookkeeping `book` of the ghost log of terminal evaluations
    (`Proofs/FailLog.lean`: `parseExpr_fi`).
  * `book` is the declarative max / filter over the evaluations that count (`book_declarative`).
  * In the plain configuration the log IS the list of terminal evaluations of the PEG specification `Spec.eval`
    (the refinement theorem carries the log: `absW` has the field `attempts`, `Spec.note` writes it, the negation
    parity is part of `Spec.Ctx`), so the error `Parse` returns for an input that does not match is a function of
    the specification's run alone (`C12_report_is_declarative`).
-/

/-- the events the report is made of, in order of occurrence: (offset, label) of every terminal evaluation that
    failed outside, or matched inside, an odd number of `!` predicates -/
def events (log : List Attempt) : List (Nat × String) :=
  (log.reverse.filter Attempt.counts).map (fun a => (a.pos.off, a.label))

theorem events_cons (a : Attempt) (log : List Attempt) :
    events (a :: log) = events log ++ (if a.counts then [(a.pos.off, a.label)] else []) := by
  unfold events
  simp only [List.reverse_cons, List.filter_append, List.map_append]
  by_cases h : a.counts = true <;> simp [List.filter, h]

theorem book_failStep (p0 : Pos) (log : List Attempt) :
    ((book p0 log).1.off, (book p0 log).2) = (events log).foldl failStep (p0.off, []) := by
  -- the fold over the filtered, mapped, reversed log is a `foldr` over the log, as `book` is
  unfold events
  rw [List.foldl_map, List.foldl_filter, List.foldl_reverse]
  induction log with
  | nil => rfl
  | cons a log ih => exact (noteStep_failStep (book p0 log) a).trans (by rw [ih]; rfl)

theorem book_pos (p0 : Pos) (log : List Attempt) :
    (book p0 log).1 = p0 ∨ ∃ a ∈ log, a.counts = true ∧ a.pos = (book p0 log).1 := by
  induction log with
  | nil => exact .inl rfl
  | cons a log ih =>
    -- `noteStep` keeps the position or takes that of `a`, which then counts
    let P (x : Pos × List String) := x.1 = p0 ∨ ∃ b ∈ a :: log, b.counts = true ∧ b.pos = x.1
    have ih : P (book p0 log) := ih.imp id fun ⟨b, hb, hc, hp⟩ => ⟨b, List.mem_cons_of_mem _ hb, hc, hp⟩
    exact iteInduction (motive := P) (fun hc => iteInduction (motive := P) (fun _ => ih) fun _ =>
      iteInduction (motive := P) (fun _ => .inr ⟨a, List.mem_cons_self, hc, rfl⟩) fun _ => ih) fun _ => ih

/-- **C12 (d) — the bookkeeping, declaratively.** Whatever the log: the recorded offset is the greatest offset of
    any evaluation that counts (or the start offset when there is none beyond it), the expected labels are exactly
    the labels of the counting evaluations at that offset, in order of occurrence, and the recorded position is that
    of such an evaluation (or the start position) - so its line and column are the ones the reader computed for that
    offset (`C02_pos_pure`: a pure function of input and offset). -/
theorem book_declarative (p0 : Pos) (log : List Attempt) :
    (book p0 log).1.off = farthest p0.off (events log) ∧
    (book p0 log).2.reverse = labelsAt (farthest p0.off (events log)) (events log) ∧
    ((book p0 log).1 = p0 ∨ ∃ a ∈ log, a.counts = true ∧ a.pos = (book p0 log).1) := by
  have h := book_failStep p0 log
  rw [C12_bookkeeping] at h
  simp only [Prod.mk.injEq] at h
  obtain ⟨h1, h2⟩ := h
  refine ⟨h1, ?_, book_pos p0 log⟩
  rw [h2]; simp

namespace RT

/-- the position of the first rune: where `parse` initialises `maxFailPos` -/
def firstPos (E : Env) : Pos := (nextPt E.input pt0).pos

theorem startState_pos (E : Env) : (startState E).pt.pos = firstPos E := by
  obtain ⟨errs, h⟩ := startState_fields E
  rw [h]; rfl

/-- **C12 (e) — every configuration.** Whatever the grammar, code, flags and options (Memoize, left recursion, a
    budget): in the state the start rule returns (or panics in), the farthest-failure record is the bookkeeping of the
    log of terminal evaluations the parser performed. -/
theorem C12_record_is_book_of_log (E : Env) (fuel : Nat) (r : Rule) :
    (parseRuleWrap E (parseExpr E fuel) fuel r (startState E)).FIOK (firstPos E) := by
  have h0 : FI (firstPos E) (startState E) := by rw [← startState_pos]; exact startState_fi E
  exact ruleWrap_fi (parseExpr_fi E (firstPos E) fuel) fuel r (startState E) h0

end RT
end PV
