/-
  C02 — code blocks observe the true match context (text, pos, labels).
-/
import PigeonVerif.Proofs.FrameProof
import PigeonVerif.Proofs.CtxLog

namespace PV
namespace RT

theorem callBlock_event (E : Env) (blk : Nat) (s : PState) :
    ∃ ev, (callBlock E blk s).2.trace = ev :: s.trace ∧ ev.blk = blk ∧ ev.pos = s.curPos ∧
      ev.text = s.curText ∧ ev.pt = s.pt.pos ∧
      ev.args = (E.code.args blk).map (fun n => (lookup n (s.vstack.headD [])).getD .nil) := by
  exact ⟨_, rfl, rfl, rfl, rfl, rfl, rfl⟩

/-- **C02 (a)** An action block runs exactly when its expression has matched, and then it sees
    `pos` = the position at which the match started, `text` = the input bytes from the match start to
    the current offset, and as arguments the values bound to its labels in the innermost scope. -/
theorem C02_action_ctx (E : Env) (rec : Expr → PState → Outcome) (blk : Nat) (e1 : Expr) (s : PState) :
    match parseExprWrap E rec e1 s with
    | .done v false s1 => parseAction E rec blk e1 s = .done v false s1
    | .done _ true s1 =>
      ∃ ev rest, (callBlock E blk { s1 with curPos := s.pt.pos, curText := sliceFrom E s1 s.pt }).2.trace = ev :: rest ∧
        ev.pos = s.pt.pos ∧
        ev.text = (E.input.drop s.pt.pos.off).take (s1.pt.pos.off - s.pt.pos.off) ∧
        ev.args = (E.code.args blk).map (fun n => (lookup n (s1.vstack.headD [])).getD .nil)
    | _ => True := by
  cases h : parseExprWrap E rec e1 s with
  | oof => trivial
  | panic p s1 => trivial
  | done v ok s1 =>
    cases ok with
    | false => simp [parseAction, h, Outcome.bind]
    | true => exact ⟨_, _, rfl, rfl, rfl, rfl⟩

/-- an action whose expression fails is not run (the trace is the expression's) -/
theorem C02_action_not_run_on_failure (E : Env) (rec : Expr → PState → Outcome) (blk : Nat) (e1 : Expr)
    (s s1 : PState) (v : Val) (h : parseExprWrap E rec e1 s = .done v false s1) :
    parseAction E rec blk e1 s = .done v false s1 := by
  simp [parseAction, h, Outcome.bind]

/-- **C02 (c)** A code predicate's boolean alone decides: `&{…}` matches iff the block returns
    true, `!{…}` iff it returns false; the value is nil and nothing is consumed. -/
theorem C02_pred_bool_decides (E : Env) (blk : Nat) (s : PState)
    (hp : (callBlock E blk s).1.panic = none) :
    (∃ s', parseAndCode E blk s = .done .nil (callBlock E blk s).1.retB s' ∧ s'.pt = s.pt) ∧
    (∃ s', parseNotCode E blk s = .done .nil (!(callBlock E blk s).1.retB) s' ∧ s'.pt = s.pt) := by
  constructor
  · refine ⟨_, by simp [parseAndCode, runCodeBlock, hp]; rfl, by simp⟩
  · refine ⟨_, by simp [parseNotCode, runCodeBlock, hp]; rfl, by simp⟩

/-- **C02 (d)** a labelled expression binds its value in the enclosing scope when it matches -/
theorem C02_label_bound (E : Env) (rec : Expr → PState → Outcome) (label : String) (e1 : Expr)
    (s s1 : PState) (v : Val) (hl : label ≠ "") (hv : s.vstack ≠ [])
    (h : parseExprWrap E rec e1 (pushV s) = .done v true s1) (hs1 : s1.vstack.tail = s.vstack) :
    ∃ s', parseLabeled E rec label e1 s = .done v true s' ∧ lookup label (s'.vstack.headD []) = some v := by
  simp only [parseLabeled, h, Outcome.bind, hl, ne_eq, not_false_eq_true, decide_true, Bool.and_self, if_true]
  refine ⟨_, rfl, ?_⟩
  unfold setLabel
  simp only [popV_vstack, hs1]
  cases hvs : s.vstack with
  | nil => exact absurd hvs hv
  | cons m rest => simp [lookup]

/-- What predicate and state blocks see in the unchanged code (finding D2): NOT the current parser
    position and an empty text, but whatever `cur.pos` / `cur.text` the most recently executed
    action left (zero values before any action). The model reproduces the code here. -/
theorem C02_pred_ctx_is_stale (E : Env) (blk : Nat) (s : PState) :
    ∃ ev, (callBlock E blk s).2.trace = ev :: s.trace ∧ ev.pos = s.curPos ∧ ev.text = s.curText :=
  ⟨_, rfl, rfl, rfl⟩


theorem startState_ptinv (E : Env) : PtInv E (startState E) := (start_inv E).2

/-- **C02 (b)** line, col and offset are a pure function of the input and the byte offset, however
    much backtracking, memoised skipping or seed growing preceded: after evaluating any expression
    the parser's savepoint (and every memoized end position) is one of the positions the reader
    passes through when reading the input from the start. -/
theorem C02_position_reachable (E : Env) (f : Nat) (e : Expr) (s s' : PState) (v : Val) (ok : Bool)
    (hm : MemoOK s) (hp : PtInv E s) (h : parseExpr E f e s = .done v ok s') : PtInv E s' :=
  (parseExpr_framed hm h).stk.ptinv hp

/-- A position the reader passes through when reading the input from the start (`Reach`) is
    determined by its offset alone (offset counts bytes; line and column are what reading the bytes
    before it produces). In particular every action block that starts a match at a given offset sees
    the same `pos`, on every path that leads there. -/
theorem C02_pos_pure (E : Env) (a b : Savepoint) (ha : Reach E.input a) (hb : Reach E.input b)
    (h : a.pos.off = b.pos.off) : a.pos = b.pos ∧ a.rn = b.rn ∧ a.w = b.w := by
  have := Reach.unique ha hb h
  subst this; exact ⟨rfl, rfl, rfl⟩

/-- **C02 (e) — whole run, every configuration.** Whatever the grammar, code, template variant and options (Memoize, left
    recursion, a budget), input and depth: in the state the start rule returns (or panics in), EVERY block invocation
    recorded in the trace - action, predicate or state block, however much backtracking, memoised skipping or seed growing
    preceded it - was given a `text` that is the input at the byte offset of the `pos` it was given:
    `text = input[pos.offset, pos.offset + len(text))`. For actions `pos` is the match start and `text` the match
    (`C02_action_ctx`); predicate and state blocks get what the last action left (finding D2), still a piece of the input at
    that place. Proof: `Proofs/CtxLog.lean`, one induction over all node kinds and wrappers. -/
theorem C02_every_block_sees_the_input_at_its_position (E : Env) (fuel : Nat) (r : Rule) :
    match parseRuleWrap E (parseExpr E fuel) fuel r (startState E) with
    | .done _ _ s' => ∀ ev ∈ s'.trace, ev.text = (E.input.drop ev.pos.off).take ev.text.length
    | .panic _ s' => ∀ ev ∈ s'.trace, ev.text = (E.input.drop ev.pos.off).take ev.text.length
    | .oof => True := by
  have h := ruleWrap_ci (parseExpr_ci E fuel) fuel r (startState E) (startState_ci E)
  revert h
  generalize parseRuleWrap E (parseExpr E fuel) fuel r (startState E) = o
  cases o with
  | oof => intro _; trivial
  | done v ok s' => intro h; exact h.2
  | panic p s' => intro h; exact h.2

end RT
end PV
