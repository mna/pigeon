/-
  C08 — left-recursive rules parse as the left-associative iteration they denote.

  Kernel-checked here: the structural facts of the seed-growing loop (`parseRuleRecursiveLeader`) on the full runtime
  model; "seed growing = the iteration" for DIRECTLY left-recursive rules whose operands reach no leader rule and whose
  code is pure (`C08_direct_left_recursion_is_iteration_partial`, `Proofs/LFree.lean`, `Proofs/LRIter.lean`; operands that
  recurse back into a leader, e.g. `"(" Expr ")"`, are NOT covered by the theorem — the iterative-twin streams are what
  checks them); and the TERMINATION clause: with `-support-left-recursion`, a grammar in which every same-position cycle passes through a
  leader rule terminates on every input, without a budget (`C08_left_recursive_parse_terminates`,
  `Proofs/AdvanceLR.lean`, `Proofs/Conv.lean`, `Proofs/LRTerm.lean`).
-/
import PigeonVerif.Proofs.LRTerm
import PigeonVerif.Proofs.LRIterExpr

namespace PV
namespace RT

/-- **C08 (a)** The loop keeps a result only if it is strictly longer than the previous one (after
    the first), and what it returns is the last kept result: a growth attempt that fails or does not
    extend is dropped, with the error list and the state store it found restored. -/
theorem C08_last_attempt_dropped (E : Env) (rec : Expr → PState → Outcome) (r : Rule) (startMark : Savepoint)
    (k depth : Nat) (last : MemoVal) (lastErrs : List String) (s s2 : PState) (v : Val) (ok : Bool)
    (hrule : parseRule E rec r (setMemoized s startMark (.rule r.name) last) = .done v ok s2)
    (hstop : (!ok || (s2.pt.pos.off ≤ last.end.pos.off && depth ≠ 0)) = true) :
    ∃ s', leaderLoop E rec r startMark (k + 1) depth last lastErrs s = .done last.v last.b s' ∧
      s'.errs = lastErrs ∧ s'.pt.pos.off = last.end.pos.off ∧
      (E.useState = true → s'.state = s.state) := by
  rw [leaderLoop_succ, hrule]
  exact ⟨_, if_pos hstop, by simp, by simp, fun hu => by simp [restoreState, hu]⟩

/-- **C08 (b)** a growth attempt that extends the match is adopted as the new seed: the next
    iteration starts again at the rule's start position with the longer result memoized. -/
theorem C08_growth_adopted (E : Env) (rec : Expr → PState → Outcome) (r : Rule) (startMark : Savepoint)
    (k depth : Nat) (last : MemoVal) (lastErrs : List String) (s s2 : PState) (v : Val)
    (hrule : parseRule E rec r (setMemoized s startMark (.rule r.name) last) = .done v true s2)
    (hgrow : (s2.pt.pos.off ≤ last.end.pos.off && depth ≠ 0) = false) :
    leaderLoop E rec r startMark (k + 1) depth last lastErrs s =
      leaderLoop E rec r startMark k (depth + 1) { v := v, b := true, «end» := s2.pt } s2.errs
        (restore s2 startMark) := by
  rw [leaderLoop_succ, hrule]
  exact if_neg (by rw [Bool.not_true, Bool.false_or, hgrow]; exact Bool.noConfusion)

/-- **C08 (c)** the recursive reference sees the previous seed: while the loop runs, a reference to
    the leader at the rule's start offset is answered from the memo table with the last kept result. -/
theorem C08_recursive_reference_sees_seed (E : Env) (rec : Expr → PState → Outcome) (r : Rule) (k : Nat)
    (s : PState) (last : MemoVal) (hk : getMemoized s (.rule r.name) = some last) :
    parseRuleLeader E rec k r s = .done last.v last.b (restore s last.end) :=
  parseRuleLeader_hit hk

/-- **C08 (d)** Termination: with a budget the seed-growing loop (like every other loop) always
    returns — `C16_terminates` covers left-recursive grammars. Without a budget each adopted growth
    strictly increases the end offset, which is bounded by the input length. -/
theorem C08_growth_strictly_extends (last : MemoVal) (s2 : PState) (depth : Nat)
    (hgrow : (s2.pt.pos.off ≤ last.end.pos.off && depth ≠ 0) = false) (hd : depth ≠ 0) :
    last.end.pos.off < s2.pt.pos.off := by
  simp [hd] at hgrow
  omega

/-- **C08 (parsing terminates).** Left-recursion template, Memoize off, no budget. `LRWF`: a closed nullability oracle,
    repetitions over non-nullable bodies, no throw/recover, and a ranking of the rules that strictly decreases along every
    first-graph edge EXCEPT those into leader rules — every cycle "rule → rule reachable before consuming anything" passes
    through a leader (what `builder.ComputeLeftRecursives` has to provide). Then for every code environment and every input
    `Parse` returns at some finite depth: a leader without a seed runs the growing loop, inside which it has one; the
    loop ends because each round after the first must end strictly later than the seed. -/
theorem C08_left_recursive_parse_terminates (E : Env) (rn : String → Bool) (rank : String → Nat) (h : LRWF E rn rank) :
    ∃ f, parse E f ≠ .oof := lr_parse_terminates h

/-- every expression of such a grammar, from every state the parser can be in (any seeds in the table) -/
theorem C08_every_expression_terminates (E : Env) (rn : String → Bool) (rank : String → Nat) (h : LRWF E rn rank)
    (e : Expr) (s : PState) (hi : LI E rn s) (hwf : e.wfs rn = true) : ∃ f, parseExpr E f e s ≠ .oof :=
  lr_terminates h e s hi hwf

/-- progress with seeds: a successful evaluation never moves backwards, an expression that succeeds without consuming is
    nullable, every seed in the table respects the same, and the table only grows -/
theorem C08_progress_with_seeds (E : Env) (hc : LRCfg E) (rn : String → Bool)
    (hrn : ∀ n r, E.findRule n = some r → r.expr.nul rn = true → rn n = true)
    (f : Nat) (e : Expr) (s s' : PState) (v : Val) (hi : FInv E s) (hm : MA rn s) (h : parseExpr E f e s = .done v true s') :
    s.pt.pos.off ≤ s'.pt.pos.off ∧ (s'.pt.pos.off = s.pt.pos.off → e.nul rn = true) ∧ MA rn s' ∧
      ∃ new, s'.memo = new ++ s.memo := by
  obtain ⟨⟨a, b⟩, c⟩ := (advLR hc hrn s.memo f e s hi ⟨hm, [], by simp⟩).done h
  exact ⟨(c rfl).1, (c rfl).2, a, b⟩

/-- the hypothesis is decidable given a candidate witness; `true` is sound -/
theorem C08_checked_grammars_terminate (E : Env) (nl : List String) (rk : List (String × Nat))
    (hc : checkLRWF E nl rk = true) : ∃ f, parse E f ≠ .oof :=
  lr_parse_terminates (checkLRWF_sound hc)

/-- a leader is needed: a same-position self-loop on a rule that is NOT a leader has no ranking -/
theorem C08_cycle_without_leader_has_no_ranking (E : Env) (rn : String → Bool) (rank : String → Nat) (n : String) (r : Rule)
    (hf : E.findRule n = some r) (hself : n ∈ r.expr.first rn) (hnl : isLd r = false) : ¬ LRWF E rn rank := fun h => by
  rcases h.ranked n r hf n hself with hx | hx
  · rw [ldName_find hf, hnl] at hx; cases hx
  · exact Nat.lt_irrefl _ hx

namespace ExampleC08

def lit (id : Nat) (s : String) : Expr := .lit id (s.toList.map (·.toNat)) false ("\"" ++ s ++ "\"")

/-- `S <- E !.` ; `E <- E "+" T / T` (leader) ; `T <- T "*" N / N` (leader) ; `N <- "1" / "(" E ")"` -/
def rules : List Rule :=
  [ { name := "S", displayName := "", leader := false, leftRecursive := false,
      expr := .seq 1 [.ruleRef 2 "E", .not 3 (.any 4)] },
    { name := "E", displayName := "", leader := true, leftRecursive := true,
      expr := .choice 5 2 6 [.seq 6 [.ruleRef 7 "E", lit 8 "+", .ruleRef 9 "T"], .ruleRef 10 "T"] },
    { name := "T", displayName := "", leader := true, leftRecursive := true,
      expr := .choice 11 3 6 [.seq 12 [.ruleRef 13 "T", lit 14 "*", .ruleRef 15 "N"], .ruleRef 16 "N"] },
    { name := "N", displayName := "", leader := false, leftRecursive := false,
      expr := .choice 17 4 6 [lit 18 "1", .seq 19 [lit 20 "(", .ruleRef 21 "E", lit 22 ")"]] } ]

def env (inp : String) : Env :=
  { flags := { optimize := false, globalState := false, leftRec := true, basicLatin := false },
    opts := {}, rules := rules,
    code := { args := fun _ => [], run := fun _ ctx => { state := ctx.state, global := ctx.global } },
    toLower := id, input := inp.toList.map (·.toNat) }

/-- no rule is nullable; `T` ranks above `N` (its only edge to a non-leader); edges into the leaders `E`, `T` need nothing -/
theorem wellformed (inp : String) : checkLRWF (env inp) [] [("T", 1)] = true :=
  (checkLRWF_input (env "") _ _ _).trans (by decide +kernel)

example (inp : String) : ∃ f, parse (env inp) f ≠ .oof := C08_checked_grammars_terminate _ _ _ (wellformed inp)

theorem parses : (match parse (env "1+1*1") 60 with | .ret _ errs _ => some errs.isEmpty | _ => none) = some true := by
  decide +kernel

/-- the same grammar with `E` NOT marked as leader fails the check (and overflows in reality) -/
def rulesBad : List Rule := rules.map (fun r => if r.name = "E" then { r with leader := false } else r)

theorem not_wellformed : checkLRWF { env "" with rules := rulesBad } [] [("T", 1)] = false := by decide +kernel

end ExampleC08

/-- **C08 (the main clause), partial.** `A <- A t1 / … / A tn / b1 / … / bm` generated with `-support-left-recursion`
    (Memoize off, no budget). Hypotheses (`DirectLR`): `A` is a leader of exactly that shape; no rule that runs the
    seed-growing loop can be reached from the operands `ti`, `bj` (`LFSet`, `callsInL`); every `ti` is non-nullable; node
    identifiers are unique, there is no throw/recover and the code blocks are pure functions of `c.text` / `c.pos`
    (`Expr.Ok`, `PureCode`). Then for every input, depth and state in which the table holds no entry for `A` at the
    current position: if the leader returns, it returns what the ITERATION returns (`Iter`, `Proofs/LRIter.lean`) —
    the first base alternative that the ORDINARY parser matches at the start position (`AltAt`), extended greedily by
    the first tail that the ordinary parser matches at the end of the match so far (`TailsAt`, `Reps`), the value being
    the left-nested `[[[b, t…], t…], t…]`; and it fails iff no base alternative matches. "What the ordinary parser
    matches" (`Loc`) is the result of the parser generated WITHOUT left-recursion support on that operand at that
    position, from every state, so nothing of the seed-growing machinery is left in the statement.
    NOT covered: operands that recurse into a leader (`"(" Expr ")"`), indirect left recursion, labels/actions around the
    recursive alternatives, Memoize — the check's iterative-twin streams compare those by execution. -/
theorem C08_direct_left_recursion_is_iteration_partial {E : Env} {A : Rule} {cid line col : Nat}
    {ra : List (Nat × Nat × List Expr)} {bases : List Expr} {S rn : String → Bool} {own : Nat → Option String}
    {node : Nat → Option Expr} {isPred : Nat → Bool} (H : DirectLR E A cid line col ra bases S rn own node isPred)
    (f k : Nat) (s s' : PState) (v : Val) (ok : Bool) (hi : FInv E s) (hnone : getMemoized s (.rule A.name) = none)
    (hrun : parseRuleLeader E (parseExpr E f) k A s = .done v ok s') :
    Iter E A (ra.map (·.2.2)) bases s.pt ok v s'.pt :=
  (leader_iter H f k s hi hnone).done hrun

/-- **The iteration is what the ORDINARY parser does with the iterative rule body.** Same hypotheses as
    `C08_direct_left_recursion_is_iteration_partial`. Whatever the leader `A <- A t1 / … / A tn / b1 / … / bm` returns
    from `s` — success or failure, and the end position — the parser
    generated WITHOUT left-recursion support returns for the expression `(b1 / … / bm) ((t1) / … / (tn))*`
    (`iterExpr`), from every state at the same position inside `A`. (The VALUE of the iterative body is the pair
    `[b, [t…, t…, …]]`; that the left-recursive rule returns the left-nested `[[[b, t…], t…], …]` is the statement of
    `C08_direct_left_recursion_is_iteration_partial`.) -/
theorem C08_direct_left_recursion_matches_what_the_iterative_rule_matches_partial {E : Env} {A : Rule} {cid line col : Nat}
    {ra : List (Nat × Nat × List Expr)} {bases : List Expr} {S rn : String → Bool} {own : Nat → Option String}
    {node : Nat → Option Expr} {isPred : Nat → Bool} (H : DirectLR E A cid line col ra bases S rn own node isPred)
    (f k : Nat) (s s' : PState) (v : Val) (ok : Bool) (hi : FInv E s) (hnone : getMemoized s (.rule A.name) = none)
    (hrun : parseRuleLeader E (parseExpr E f) k A s = .done v ok s')
    (t : PState) (hpt : t.pt = s.pt) (hhd : t.rstack.head? = some A) :
    ∃ F w t', parseExpr (noLR E) F (iterExpr (ra.map (·.2.2)) bases) t = .done w ok t' ∧ t'.pt = s'.pt :=
  iter_replay H.cfg.nobudget (C08_direct_left_recursion_is_iteration_partial H f k s s' v ok hi hnone hrun) t ⟨hpt, hhd⟩
    (by rw [hpt]; exact hi.2.1)

/-- what the ordinary parser does with an operand at a position is a function of the operand and the position -/
theorem C08_operand_result_is_determined (E : Env) (A : Rule) (x : Expr) (p q q' : Savepoint) (ok ok' : Bool) (v v' : Val)
    (h1 : Loc E A x p ok v q) (h2 : Loc E A x p ok' v' q') : ok = ok' ∧ v = v' ∧ q = q' := h1.det h2

/-- leader-free expressions are evaluated by the left-recursion parser exactly as by the ordinary parser (same
    outcome, same state, at every depth): the memo table plays no part -/
theorem C08_leader_free_is_ordinary (E : Env) (hc : LRCfg E) (S : String → Bool) (hS : LFSet E S) (f : Nat) (e : Expr)
    (he : e.callsIn S = true) (s : PState) : parseExpr (noLR E) f e s = parseExpr E f e s :=
  parseExpr_noLR hc hS f e he s

namespace ExampleIter

def lit (id : Nat) (s : String) : Expr := .lit id (s.toList.map (·.toNat)) false ("\"" ++ s ++ "\"")

-- `S <- E !.` ; `E <- E "+" N / E "-" N / N` (leader) ; `N <- "1" / "2"`
def e2 : Expr := .ruleRef 2 "E"
def e4 : Expr := .any 4
def e3 : Expr := .not 3 e4
def e1 : Expr := .seq 1 [e2, e3]
def e7 : Expr := .ruleRef 7 "E"
def e8 : Expr := lit 8 "+"
def e9 : Expr := .ruleRef 9 "N"
def e6 : Expr := .seq 6 [e7, e8, e9]
def e11 : Expr := .ruleRef 11 "E"
def e12 : Expr := lit 12 "-"
def e13 : Expr := .ruleRef 13 "N"
def e10 : Expr := .seq 10 [e11, e12, e13]
def e14 : Expr := .ruleRef 14 "N"
def e5 : Expr := .choice 5 2 6 [e6, e10, e14]
def e16 : Expr := lit 16 "1"
def e17 : Expr := lit 17 "2"
def e15 : Expr := .choice 15 3 6 [e16, e17]

def ruleE : Rule := { name := "E", displayName := "", leader := true, leftRecursive := true, expr := e5 }

def rules : List Rule :=
  [ { name := "S", displayName := "", leader := false, leftRecursive := false, expr := e1 },
    ruleE,
    { name := "N", displayName := "", leader := false, leftRecursive := false, expr := e15 } ]

def own (id : Nat) : Option String :=
  if id = 0 then none else if id ≤ 4 then some "S" else if id ≤ 14 then some "E" else if id ≤ 17 then some "N" else none
def node : Nat → Option Expr
  | 1 => some e1 | 2 => some e2 | 3 => some e3 | 4 => some e4 | 5 => some e5 | 6 => some e6 | 7 => some e7
  | 8 => some e8 | 9 => some e9 | 10 => some e10 | 11 => some e11 | 12 => some e12 | 13 => some e13 | 14 => some e14
  | 15 => some e15 | 16 => some e16 | 17 => some e17
  | _ => none

def env (inp : String) : Env :=
  { flags := { optimize := false, globalState := false, leftRec := true, basicLatin := false },
    opts := {}, rules := rules,
    code := { args := fun _ => [], run := fun _ ctx => { state := ctx.state, global := ctx.global } },
    toLower := id, input := inp.toList.map (·.toNat) }

def ra : List (Nat × Nat × List Expr) := [(6, 7, [e8, e9]), (10, 11, [e12, e13])]

theorem all_rules {inp : String} {P : Rule → Prop}
    (hS : P { name := "S", displayName := "", leader := false, leftRecursive := false, expr := e1 }) (hE : P ruleE)
    (hN : P { name := "N", displayName := "", leader := false, leftRecursive := false, expr := e15 }) :
    ∀ r ∈ (env inp).rules, P r := by
  intro r hr
  simp only [env, rules, List.mem_cons, List.not_mem_nil, or_false] at hr
  rcases hr with rfl | rfl | rfl <;> assumption

/-- the hypotheses of the theorem hold of this grammar, for every input -/
theorem direct (inp : String) :
    DirectLR (env inp) ruleE 5 2 6 ra [e14] (fun n => n == "N") (fun _ => false) own node (fun _ => false) where
  cfg := ⟨rfl, rfl, rfl⟩
  noopt := rfl
  pure := { noargs := fun _ => rfl, act := fun _ _ _ _ _ => ⟨rfl, rfl, rfl, rfl⟩, pred := fun _ h => by cases h }
  okG := forall_findRule (all_rules
    (by simp only [e1, e2, e3, e4, Expr.Ok, OkL, Keyed, and_true]; repeat' constructor)
    (by simp only [ruleE, e5, e6, e7, e8, e9, e10, e11, e12, e13, e14, lit, Expr.Ok, OkL, Keyed, and_true]
        repeat' constructor)
    (by simp only [e15, e16, e17, lit, Expr.Ok, OkL, Keyed, and_true]; repeat' constructor))
  find := rfl
  ld := rfl
  shape := rfl
  lf :=
    ⟨fun n r hS hf => forall_findRule (P := fun n r => (n == "N") = true → r.expr.callsIn (fun n => n == "N") = true)
        (all_rules (by decide) (by decide) (fun _ => by decide)) n r hf hS,
     fun n r hS hf => forall_findRule (P := fun n r => (n == "N") = true → isLd r = false)
        (all_rules (by decide) (by decide) (fun _ => rfl)) n r hf hS⟩
  tails_lf := by decide +kernel
  bases_lf := by decide +kernel
  rnc := forall_findRule (P := fun n r => r.expr.nul (fun _ => false) = true → (fun _ : String => false) n = true)
    (all_rules (by decide) (by decide) (by decide))
  tails_nn := by decide +kernel

example (inp : String) (f k : Nat) (s' : PState) (v : Val) (ok : Bool)
    (h : parseRuleLeader (env inp) (parseExpr (env inp) f) k ruleE (startState (env inp)) = .done v ok s') :
    Iter (env inp) ruleE [[e8, e9], [e12, e13]] [e14] (startState (env inp)).pt ok v s'.pt :=
  C08_direct_left_recursion_is_iteration_partial (direct inp) f k _ s' v ok (start_inv _)
    (by unfold getMemoized; rw [(startState_empty _).1]; rfl) h

/-- the shape `[[[a, p, c], m, d], nil]` of a value (the outer pair is the start rule's `E !.`) -/
def nested : Final → Option (List Nat × List Nat × List Nat × List Nat × List Nat)
  | .ret (.list [.list [.list [.bytes a, .bytes p, .bytes c], .bytes m, .bytes d], .nil]) _ _ => some (a, p, c, m, d)
  | _ => none

/-- the value really is left-nested (kernel-evaluated): `1+2-1` gives `[[[1, +, 2], -, 1], nil]`, i.e. `(1+2)-1` -/
theorem left_nested : nested (parse (env "1+2-1") 40) = some ([49], [43], [50], [45], [49]) := by decide +kernel

end ExampleIter

/-! ### kernel-evaluated witnesses of listed findings (the model reproduces the code; the same inputs are
    replayed against the real generated parser by the check) -/

namespace Witness

def lit (id : Nat) (s : String) : Expr := .lit id (s.toList.map (·.toNat)) false ("\"" ++ s ++ "\"")

/-- `S <- E ("+" X)* !.` ; `E <- E "+" X ";" / X` (leader) ; `X <- "-" { return text, errors.New("dup") }` -/
def rulesD26 : List Rule :=
  [ { name := "S", displayName := "", leader := false, leftRecursive := false,
      expr := .seq 1 [.ruleRef 2 "E", .zeroOrMore 3 (.seq 4 [lit 5 "+", .ruleRef 6 "X"]), .not 7 (.any 8)] },
    { name := "E", displayName := "", leader := true, leftRecursive := true,
      expr := .choice 9 2 7 [.seq 10 [.ruleRef 11 "E", lit 12 "+", .ruleRef 13 "X", lit 14 ";"], .ruleRef 15 "X"] },
    { name := "X", displayName := "", leader := false, leftRecursive := false,
      expr := .action 16 1 (lit 17 "-") } ]

def codeD26 : CodeEnv :=
  { args := fun _ => [],
    run := fun _ ctx => { ret := .bytes ctx.text, state := ctx.state, global := ctx.global, err := some "dup" } }

def envD26 (memo : Bool) : Env :=
  { flags := { optimize := false, globalState := false, leftRec := true, basicLatin := false },
    opts := { memoize := memo }, rules := rulesD26, code := codeD26, toLower := id,
    input := "-+-;+-".toList.map (·.toNat) }

def errsOf : Final → List String
  | .ret _ errs _ => errs
  | _ => []

/-- **Finding D26 on the model**: the plain parser reports the error of every `X` (offsets 0, 2, 5);
    with `Memoize(true)` the error at offset 5 — raised inside the discarded growth attempt, rolled
    back with it, and answered from the memo table afterwards — is missing. -/
theorem C08_D26_memo_loses_rolled_back_error :
    errsOf (parse (envD26 false) 40) = ["1:1 (0): rule X: dup", "1:3 (2): rule X: dup", "1:6 (5): rule X: dup"] ∧
    errsOf (parse (envD26 true) 40) = ["1:1 (0): rule X: dup", "1:3 (2): rule X: dup"] := by
  decide +kernel

/-- `Expr <- Add "x" / "a"` ; `Add <- Expr "y" / "b"` (leader: `Add`, the smaller name); start rule `Expr` -/
def rulesD25 : List Rule :=
  [ { name := "Expr", displayName := "", leader := false, leftRecursive := true,
      expr := .choice 1 1 9 [.seq 2 [.ruleRef 3 "Add", lit 4 "x"], lit 5 "a"] },
    { name := "Add", displayName := "", leader := true, leftRecursive := true,
      expr := .choice 6 2 8 [.seq 7 [.ruleRef 8 "Expr", lit 9 "y"], lit 10 "b"] } ]

/-- the iteration the grammar denotes: `Expr <- ("b" "x" / "a") ("y" "x")*` -/
def rulesD25iter : List Rule :=
  [ { name := "Expr", displayName := "", leader := false, leftRecursive := false,
      expr := .seq 1 [.choice 2 1 9 [.seq 3 [lit 4 "b", lit 5 "x"], lit 6 "a"], .zeroOrMore 7 (.seq 8 [lit 9 "y", lit 10 "x"])] } ]

def envD25 (rules : List Rule) (lr : Bool) (inp : String) : Env :=
  { flags := { optimize := false, globalState := false, leftRec := lr, basicLatin := false },
    opts := {}, rules := rules, code := { args := fun _ => [], run := fun _ ctx => { state := ctx.state, global := ctx.global } },
    toLower := id, input := inp.toList.map (·.toNat) }

def consumed : Final → Option Nat
  | .ret _ [] s => some s.pt.pos.off
  | _ => none

/-- **Finding D25 on the model**: entered through the rule that is not the leader, the left-recursive
    pair matches only `a` of `ayxy` (the iteration it denotes matches `ayx`), and rejects `bxy`
    (the iteration matches `bx`). -/
theorem C08_D25_nonleader_entry_is_not_greedy :
    consumed (parse (envD25 rulesD25 true "ayxy") 40) = some 1 ∧
    consumed (parse (envD25 rulesD25iter false "ayxy") 40) = some 3 ∧
    consumed (parse (envD25 rulesD25 true "bxy") 40) = none ∧
    consumed (parse (envD25 rulesD25iter false "bxy") 40) = some 2 := by
  decide +kernel

/-- `A <- Z C "a" / "q"` (leader) ; `Z <- A "y" / ""` ; `C <- A "z" / "c"` with the marks pigeon EMITS for it: `C` is NOT marked
    left-recursive although it lies on a same-position cycle (`Z` is nullable); `correct = true` gives the marks it should carry -/
def rulesD37 (correct : Bool) : List Rule :=
  [ { name := "A", displayName := "", leader := true, leftRecursive := true,
      expr := .choice 1 1 1 [.seq 2 [.ruleRef 3 "Z", .ruleRef 4 "C", lit 5 "a"], lit 6 "q"] },
    { name := "Z", displayName := "", leader := false, leftRecursive := true,
      expr := .choice 7 2 1 [.seq 8 [.ruleRef 9 "A", lit 10 "y"], lit 11 ""] },
    { name := "C", displayName := "", leader := false, leftRecursive := correct,
      expr := .choice 12 3 1 [.seq 13 [.ruleRef 14 "A", lit 15 "z"], lit 16 "c"] } ]

def envD37 (correct memo : Bool) : Env :=
  { flags := { optimize := false, globalState := false, leftRec := true, basicLatin := false },
    opts := { memoize := memo }, rules := rulesD37 correct,
    code := { args := fun _ => [], run := fun _ ctx => { state := ctx.state, global := ctx.global } },
    toLower := id, input := "caza".toList.map (·.toNat) }

/-- **Finding D37 on the model**: with the marks pigeon emits, `caza` is matched completely by default and only up to offset 2
    with `Memoize(true)` - the unmarked `C` is memoized during the first growth round of `A`. With `C` marked (as a rule on a
    same-position cycle should be) both configurations match all four bytes. -/
theorem C08_D37_unmarked_rule_on_a_cycle_is_memoized :
    consumed (parse (envD37 false false) 60) = some 4 ∧ consumed (parse (envD37 false true) 60) = some 2 ∧
    consumed (parse (envD37 true false) 60) = some 4 ∧ consumed (parse (envD37 true true) 60) = some 4 := by
  decide +kernel

end Witness

end RT
end PV
