/-
  C20 — the bootstrap chain agrees with itself and with the checked-in artifacts.
  (a) the two front-ends are compared by execution (harness/cmd/pvboot); (b) artifact regeneration
  is a ground, finite statement decided by recomputation (`make clean all` on a copy, byte
  comparison of every tracked file). Kernel-checked here: the escape validity test the two
  scanners apply to `\u`/`\U` escapes, where they are known to differ (finding F3).
-/
namespace PV
namespace Boot

/-- the generated front-end (and Go): a code point is a surrogate iff 0xD800 ≤ x < 0xE000 -/
def isSurrogate (x : Nat) : Bool := 0xD800 ≤ x && x < 0xE000

/-- `bootstrap/scan.go` `scanEscape`: 0xD800 ≤ x ≤ 0xE000 (off by one) -/
def isSurrogateBootstrap (x : Nat) : Bool := 0xD800 ≤ x && x ≤ 0xE000

/-- the two tests agree on every code point except U+E000, which only the bootstrap scanner rejects;
    so the bootstrap subset is a subset (it never accepts an escape the generated front-end
    rejects) and differs from it in exactly one code point -/
theorem C20_escape_tests_differ_exactly_at_E000 (x : Nat) :
    isSurrogateBootstrap x ≠ isSurrogate x ↔ x = 0xE000 := by
  unfold isSurrogateBootstrap isSurrogate
  rw [Ne, Bool.eq_iff_iff]
  simp only [Bool.and_eq_true, decide_eq_true_eq]
  omega

theorem C20_bootstrap_rejects_more (x : Nat) (h : isSurrogate x = true) : isSurrogateBootstrap x = true := by
  have h := Bool.and_eq_true_iff.1 h
  exact Bool.and_eq_true_iff.2 ⟨h.1, decide_eq_true (Nat.le_of_lt (of_decide_eq_true h.2))⟩

end Boot
end PV
