/-
  C07 — left recursion is detected: rejected by default, never silently accepted.

  `Mid` models the analysis as it is in the tree (flags on nodes, visited-rule cut, early returns);
  `Mid.Spec.leftRec` is the independent Ford-style static definition (throw-free fragment).
  The general theorem `detect = Spec.leftRec` is NOT proved (and is false for the unchanged
  analysis: findings D17, D9, D18). ONE DIRECTION is: `C07_no_false_rejection_partial` - without recovery operators the
  analysis never reports a left recursion the specification does not see ("a grammar with no such cycle is accepted").
  Also kernel-checked here are the repaired defects' witnesses
  (under `cfgBeforeFixes`: accepted / falsely rejected; under `cfgNow`: decided like the specification) and structural facts.
  The correspondence stream compares the real analysis with `Mid` node by node and with the
  specification on generated and enumerated grammars.

  The CONSEQUENCE clause ("a parser generated without the flag ... cannot recurse without bound") is proved for the
  runtime model at the end of this file: `C07_no_same_position_cycle_terminates` — a grammar whose first graph has no
  cycle (witnessed by a ranking), with repetitions over non-nullable bodies and no throw/recover, terminates on
  every input, from every state, for every code environment, without any budget (`Proofs/Advance.lean`,
  `Proofs/WFTerm.lean`). `C07_nullable_sound` is the semantic soundness of the nullable analysis it rests on.
-/
import PigeonVerif.Properties.C19
import PigeonVerif.Proofs.Bridge
import PigeonVerif.Properties.C06Base
import PigeonVerif.Proofs.NoFalseReject

namespace PV
namespace Mid

def verdictOf (cfg : Cfg) (G : AGrammar) (order : List String) : Option Verdict :=
  (prepare cfg G order).map (·.2)

/-- A <- (B A)* "x"; B <- "b"?  (finding D22) -/
def gD22 : AGrammar := [
  { name := "A", expr := .seq false [.star (.seq false [.ref false "B", .ref false "A"]), .lit false] },
  { name := "B", expr := .opt (.lit false) }]

theorem C07_D22_was_accepted : verdictOf cfgBeforeFixes gD22 ["A", "B"] = some (.ok false) ∧ Spec.leftRec gD22 = true := by
  decide +kernel
theorem C07_D22_now_rejected : verdictOf cfgNow gD22 ["A", "B"] = some (.ok true) := by decide +kernel

/-- A <- &A "x" / "y"  (finding D8) -/
def gD8 : AGrammar := [
  { name := "A", expr := .choice false [.seq false [.and (.ref false "A"), .lit false], .lit false] }]

theorem C07_D8_was_accepted : verdictOf cfgBeforeFixes gD8 ["A"] = some (.ok false) ∧ Spec.leftRec gD8 = true := by
  decide +kernel
theorem C07_D8_now_rejected : verdictOf cfgNow gD8 ["A"] = some (.ok true) := by decide +kernel

/-- A <- [^] A / "x"  (finding D19: false rejection) -/
def gD19 : AGrammar := [
  { name := "A", expr := .choice false [.seq false [.cls true, .ref false "A"], .lit false] }]

theorem C07_D19_was_rejected : verdictOf cfgBeforeFixes gD19 ["A"] = some (.ok true) ∧ Spec.leftRec gD19 = false := by
  decide +kernel
theorem C07_D19_now_accepted : verdictOf cfgNow gD19 ["A"] = some (.ok false) := by decide +kernel

/-- A <- &"q" / B A; B <- "x"?  — finding D17 (KNOWN, not repaired: the repair breaks the suite):
    the early return of the choice leaves the later alternatives' flags at their default. -/
def gD17 : AGrammar := [
  { name := "A", expr := .choice false [.and (.lit false), .seq false [.ref false "B", .ref false "A"]] },
  { name := "B", expr := .opt (.lit false) }]

theorem C07_D17_accepted_although_left_recursive :
    verdictOf cfgNow gD17 ["A", "B"] = some (.ok false) ∧ Spec.leftRec gD17 = true := by decide +kernel

/-- with the repair "visit every alternative" (`choiceVisitAll`, not in the tree) the witness is decided correctly -/
theorem C07_D17_repair_would_reject :
    verdictOf { cfgNow with choiceVisitAll := true } gD17 ["A", "B"] = some (.ok true) := by decide +kernel

/-- **C07, acceptance clause ("a grammar with no such cycle is accepted"), every grammar without recovery operators.**
    For every grammar with distinct rule names, freshly parsed (all `Nullable` flags at Go's zero value) and without `//{…}`
    operators, every order in which `ComputeNullables` visits the rules, and the analysis as it is in the tree: if
    `PrepareGrammar` answers anything but "no left recursion" - left recursion found, or a component without a leader -
    then the independent specification agrees: some rule can reach itself at the same input position (`Spec.leftRec`).
    Contrapositive: a grammar with no such cycle is accepted. Proof (`Proofs/NoFalseReject.lean`): the flags
    `NullableVisit` leaves on the nodes err in one direction only (a rule on the visiting stack, `e+`, the alternatives
    after the first nullable one count as non-nullable), so a flag that says "nullable" is right (`visit_sound`, an
    invariant of the whole stateful traversal incl. the visited-rule cut and the re-visits); `InitialNames` continues past
    an item only on such a flag, hence the first graph is a subgraph of the specification's (`names_sub_calls`,
    `edge_sub`); a reported component is a cycle of it (`computeLRWith_closed_form`, `lr_vertex_cycle`).
    `_partial`: recovery operators are excluded - there the analysis over-approximates (findings D18 / D9; witness below).
    The OTHER direction (a cycle of the specification is reported) is false for the tree: finding D17 (witness above). -/
theorem C07_no_false_rejection_partial (G0 : AGrammar) (order : List String) (hnd : (G0.map (·.name)).Nodup)
    (hfresh : ∀ r ∈ G0, erase r.expr = r.expr) (hnr : ∀ r ∈ G0, noRec r.expr = true)
    (G' : AGrammar) (v : Verdict) (h : prepare cfgNow G0 order = some (G', v)) (hv : v ≠ .ok false) :
    Spec.leftRec G0 = true :=
  no_false_rejection_fresh G0 order hnd hfresh hnr G' v h hv

/-- the hypotheses are met by an ordinary left-recursive grammar (`E <- E "+" T / T; T <- "n"`), which the analysis reports -/
def gLR : AGrammar := [
  { name := "E", expr := .choice false [.seq false [.ref false "E", .lit false, .ref false "T"], .ref false "T"] },
  { name := "T", expr := .lit false }]
example : (gLR.map (·.name)).Nodup ∧ verdictOf cfgNow gLR ["E", "T"] = some (.ok true) := by decide +kernel
example : ∀ r ∈ gLR, erase r.expr = r.expr ∧ noRec r.expr = true := by
  intro r hr
  simp only [gLR, List.mem_cons, List.not_mem_nil, or_false] at hr
  rcases hr with rfl | rfl <;> exact ⟨rfl, rfl⟩

/-- why recovery operators are excluded (finding D18): `A <- ("x" //{l} "") A / "y"` has no same-position cycle - the
    guarded `"x"` consumes - but the recovery expression `""` makes the analysis flag the operator nullable: rejected -/
def gD18 : AGrammar := [
  { name := "A", expr := .choice false [.seq false [.recovery false (.lit false) (.lit true), .ref false "A"], .lit false] }]
theorem C07_D18_false_rejection_through_recovery :
    verdictOf cfgNow gD18 ["A"] = some (.ok true) ∧ Spec.leftRec gD18 = false := by decide +kernel

/-- **finding D37** (reproduced with the real tool): the marks can be INCOMPLETE without the verdict being wrong.
    `A <- Z C 'a' / 'q'; Z <- A 'y' / ""; C <- A 'z' / 'c'` - `Z` is nullable, so `A` can reach `C` at its own start position and
    `C` reaches `A`: all three rules lie on same-position cycles. The last traversal that reaches the reference to `Z` in `A`'s body is
    the top-level visit of `Z` (sorted order A, C, Z), during which `Z` is on the visiting stack and counts as non-nullable: the flag is
    overwritten with `false`, `InitialNames` stops at `Z`, the edge `A -> C` is lost and `C` is NOT marked left-recursive. The verdict
    (left recursion, leader `A`) is right; but a parser generated with `-support-left-recursion` memoizes the unmarked `C` under
    `Memoize(true)` and returns another result than without (C08 / C06; the runtime witness is the listed twin pair). -/
def gD37 : AGrammar := [
  { name := "A", expr := .choice false [.seq false [.ref false "Z", .ref false "C", .lit false], .lit false] },
  { name := "Z", expr := .choice false [.seq false [.ref false "A", .lit false], .lit true] },
  { name := "C", expr := .choice false [.seq false [.ref false "A", .lit false], .lit false] }]
theorem C07_D37_rule_on_a_cycle_is_not_marked :
    (prepare cfgNow gD37 ["A", "C", "Z"]).map (fun r => (r.1.map (fun x => (x.name, x.leftRecursive, x.leader)), r.2)) =
      some ([("A", true, true), ("Z", true, false), ("C", false, false)], .ok true) ∧
    (reachFrom (Spec.specGraph gD37) "C").contains "C" = true := by decide +kernel

/-- **finding D38** (same root as D37, but fatal): a same-position cycle through NO leader. `A <- D 'a' / 'q'; D <- Z E 'd' / 'p';
    E <- D 'x' / 'e'; Z <- A 'y' / ""`: the flag of the reference to the nullable `Z` in `D`'s body is overwritten with `false` during
    the top-level visit of `Z`; the analysis sees the one cycle A-D-Z, makes `A` the leader and leaves `E` unmarked - while in the
    specification's graph `D` reaches `E` and `E` reaches `D`, a cycle that contains neither `A` nor any other leader. The parser
    generated with `-support-left-recursion` recurses without bound on it (real binary: fatal stack overflow; listed witness). -/
def gD38 : AGrammar := [
  { name := "A", expr := .choice false [.seq false [.ref false "D", .lit false], .lit false] },
  { name := "D", expr := .choice false [.seq false [.ref false "Z", .ref false "E", .lit false], .lit false] },
  { name := "E", expr := .choice false [.seq false [.ref false "D", .lit false], .lit false] },
  { name := "Z", expr := .choice false [.seq false [.ref false "A", .lit false], .lit true] }]
theorem C07_D38_cycle_through_no_leader :
    (prepare cfgNow gD38 ["A", "D", "E", "Z"]).map (fun r => (r.1.map (fun x => (x.name, x.leftRecursive, x.leader)), r.2)) =
      some ([("A", true, true), ("D", true, false), ("E", false, false), ("Z", true, false)], .ok true) ∧
    (succs (Spec.specGraph gD38) "D").contains "E" = true ∧ (succs (Spec.specGraph gD38) "E").contains "D" = true := by decide +kernel

/-- direct left recursion is detected whatever follows: for `A <- A e / f` the rule's initial names
    contain `A` (a self-loop in the first graph), for every `e`, `f`, every flag assignment and
    every configuration of the analysis -/
theorem C07_direct_detected (cfg : Cfg) (e f : AExpr) (n1 n2 n3 : Bool) :
    "A" ∈ initialNames cfg (.choice n1 [.seq n2 [.ref n3 "A", e], f]) :=
  (mem_union ..).mpr (.inl (mem_ite_union.mpr (.inl List.mem_cons_self)))

end Mid
end PV

namespace PV
namespace RT

/-- **C07 (nullable is sound).** Plain configuration, ANY grammar (throw/recover included), any code environment, input,
    state and depth: a successful evaluation never ends before the position it started at, and if it ends AT that
    position then the expression is nullable in the sense of the static analysis (`Expr.nul`, relative to any
    closed oracle for the rules). Non-nullable expressions consume input. -/
theorem C07_nullable_sound (E : Env) (hp : Plain E) (rn : String → Bool)
    (hrn : ∀ n r, E.findRule n = some r → r.expr.nul rn = true → rn n = true)
    (f : Nat) (e : Expr) (s s' : PState) (v : Val) (hi : FInv E s) (h : parseExpr E f e s = .done v true s') :
    s.pt.pos.off ≤ s'.pt.pos.off ∧ (s'.pt.pos.off = s.pt.pos.off → e.nul rn = true) := by
  have := adv hp hrn f e s hi
  rw [h] at this
  exact this rfl

/-- **C07 (consequence).** A grammar in which no rule can reach itself at the same input position — there is a ranking
    of the rules that strictly decreases along every edge "rule → rule its body can invoke before consuming anything"
    (`Expr.first`) — whose repetitions have non-nullable bodies and which does not use throw/recover, terminates:
    for every code environment and every input `Parse` returns at some finite depth, with no budget. The parser cannot
    recurse without bound (nor loop). -/
theorem C07_no_same_position_cycle_terminates (E : Env) (rn : String → Bool) (rank : String → Nat)
    (h : WFG E rn rank) : ∃ f, parse E f ≠ .oof := wf_parse_terminates h

/-- the same for every expression of such a grammar, from every state the parser can be in -/
theorem C07_every_expression_terminates (E : Env) (rn : String → Bool) (rank : String → Nat) (h : WFG E rn rank)
    (e : Expr) (s : PState) (hi : FInv E s) (hwf : e.wfs rn = true) : ∃ f, parseExpr E f e s ≠ .oof :=
  wf_terminates h e s hi hwf

/-- **C07 (consequence, stated with the specification the check uses).** `Mid.Spec.leftRec` is the independent, Ford-style
    definition of "some rule can reach itself at the same input position" that the C07 check compares the builder's verdict
    with; `lowerG` forgets what the analysis does not look at. If the specification finds NO such rule — and the rule
    names are distinct, every repetition has a non-nullable body, there is no throw/recover (plain configuration) — then
    `Parse` terminates on every input, for every code environment. (`Proofs/Bridge.lean`: the two nullability / first-set
    definitions agree, the specification's fixpoint is a closed oracle; `Proofs/Reach.lean`: its breadth-first closure IS
    reachability, and an acyclic graph has a ranking.) -/
theorem C07_spec_not_left_recursive_terminates (E : Env) (hp : Plain E) (hnd : (E.rules.map (·.name)).Nodup)
    (hshape : ∀ r ∈ E.rules, r.expr.wfs (inList (Mid.Spec.nullRules (lowerG E.rules))) = true)
    (hspec : Mid.Spec.leftRec (lowerG E.rules) = false) : ∃ f, parse E f ≠ .oof := by
  obtain ⟨rank, h⟩ := spec_acyclic_wfg E hp hnd hshape hspec
  exact wf_parse_terminates h

/-- the hypothesis is decidable given a candidate witness: `checkWFG` is executable (the correspondence stream runs it
    on the generated grammars) and its `true` is sound -/
theorem C07_checked_grammars_terminate (E : Env) (nl : List String) (rk : List (String × Nat))
    (hc : checkWFG E nl rk = true) : ∃ f, parse E f ≠ .oof :=
  wf_parse_terminates (checkWFG_sound hc)

/-- `C07_no_same_position_cycle_terminates` with `Memoize(true)` as well, for the grammars the memo-soundness theorem covers (label-free pure blocks, unique
    node identifiers): the memoized parser returns wherever the plain one does (`C06_memoized_terminates_if_plain_does_partial`) -/
theorem C07_terminates_with_memoize_partial (E : Env) (own : Nat → Option String) (node : Nat → Option Expr)
    (isPred : Nat → Bool) (hc : MemoCfg E) (hp : PureCode E isPred)
    (hG : ∀ n r, E.findRule n = some r → r.expr.Ok own node isPred n)
    (rn : String → Bool) (rank : String → Nat) (h : WFG (setMemo E false) rn rank) :
    ∃ f, parse (setMemo E true) f ≠ .oof := by
  obtain ⟨f, hf⟩ := wf_parse_terminates h
  exact ⟨f, C06_memoized_terminates_if_plain_does_partial E own node isPred hc hp hG f hf⟩

/-- a rule that can reach ITSELF at the same position has no ranking: the hypothesis excludes exactly the grammars C07
    wants rejected -/
theorem C07_left_recursive_rule_has_no_ranking (E : Env) (rn : String → Bool) (rank : String → Nat) (n : String) (r : Rule)
    (hf : E.findRule n = some r) (hself : n ∈ r.expr.first rn) : ¬ WFG E rn rank := fun h =>
  Nat.lt_irrefl _ (h.ranked n r hf n hself)

namespace ExampleC07

def lit (id : Nat) (s : String) : Expr := .lit id (s.toList.map (·.toNat)) false ("\"" ++ s ++ "\"")

/-- `R <- W S "!" / S "?"` ; `S <- "a" S / "b"` ; `W <- " "*`  — `W` is nullable, so `R` reaches `S` at its own start -/
def rules : List Rule :=
  [ { name := "R", displayName := "", leader := false, leftRecursive := false,
      expr := .choice 1 1 6 [.seq 2 [.ruleRef 3 "W", .ruleRef 4 "S", lit 5 "!"], .seq 6 [.ruleRef 7 "S", lit 8 "?"]] },
    { name := "S", displayName := "", leader := false, leftRecursive := false,
      expr := .choice 9 2 6 [.seq 10 [lit 11 "a", .ruleRef 12 "S"], lit 13 "b"] },
    { name := "W", displayName := "", leader := false, leftRecursive := false,
      expr := .zeroOrMore 14 (lit 15 " ") } ]

def env (inp : String) : Env :=
  { flags := { optimize := false, globalState := false, leftRec := false, basicLatin := false },
    opts := {}, rules := rules,
    code := { args := fun _ => [], run := fun _ ctx => { state := ctx.state, global := ctx.global } },
    toLower := id, input := inp.toList.map (·.toNat) }

/-- the witness: `W` is the only nullable rule; `R` ranks above `S` and `W` -/
theorem wellformed (inp : String) : checkWFG (env inp) ["W"] [("R", 1)] = true :=
  checkWFG_of_rules (rules := rules) rfl rfl rfl (by decide +kernel)

example (inp : String) : ∃ f, parse (env inp) f ≠ .oof := C07_checked_grammars_terminate _ _ _ (wellformed inp)

/-- the specification finds no left recursion in the example grammar (kernel-evaluated); the example below concludes
    termination from it -/
theorem spec_says_no : Mid.Spec.leftRec (lowerG rules) = false := by decide +kernel

example (inp : String) : ∃ f, parse (env inp) f ≠ .oof :=
  C07_spec_not_left_recursive_terminates (env inp) (checkWFG_sound (wellformed inp)).plain
    (show (rules.map (·.name)).Nodup by decide +kernel)
    (show ∀ r ∈ rules, r.expr.wfs (inList (Mid.Spec.nullRules (lowerG rules))) = true by decide +kernel) spec_says_no

/-- `A <- A "x" / "y"`: left recursive, and indeed no witness passes the checker's ranking test -/
def lrRule : Rule :=
  { name := "A", displayName := "", leader := false, leftRecursive := false,
    expr := .choice 1 1 6 [.seq 2 [.ruleRef 3 "A", lit 4 "x"], lit 5 "y"] }

example (rn : String → Bool) (rank : String → Nat) (E : Env) (hf : E.findRule "A" = some lrRule) : ¬ WFG E rn rank :=
  C07_left_recursive_rule_has_no_ranking E rn rank "A" lrRule hf
    (List.mem_append_left _ (List.mem_append_left _ List.mem_cons_self))

end ExampleC07

end RT
end PV
