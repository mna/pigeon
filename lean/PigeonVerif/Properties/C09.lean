/-
  C09 — -optimize-grammar preserves the language.

  Each rewrite of `ast.Optimize` is an algebraic law of PEG recognition. Recognisers are modelled
  denotationally as functions from the remaining input (a list of runes) to the remaining input
  after a match (`none` = failure); sub-expressions are ARBITRARY recognisers, so every law holds
  in every context and for every grammar. (Values and label scopes are not part of this model:
  what actions see is decided by the translation-validation stream harness/cmd/pvopt, which runs
  the real optimizer.)

  Second part (end of the file): a VERIFIED VALIDATOR. `Opt.validate g g' … = true` implies that the optimized grammar
  `g'` matches exactly what `g` matches, for whole grammars with recursion, predicates, code predicates and repetition
  (`C09_validated_output_preserves_the_language`; `Opt/Sem.lean` recognition semantics, `Opt/Nf.lean` normal form,
  `Opt/NfSound.lean`, `Opt/Validate.lean`). The C09 check runs it on every (input, output) pair of the real
  `ast.Optimize`: the optimizer is not trusted, each of its outputs is checked by a function whose acceptance is proved
  to mean "same language".
-/
import PigeonVerif.Opt.Validate

namespace PV
namespace Peg

abbrev Rune := Nat
/-- a recogniser: remaining input ↦ remaining input after the match -/
abbrev P := List Rune → Option (List Rune)

def seqP : List P → P
  | [] => fun i => some i
  | p :: ps => fun i => (p i).bind (seqP ps)

def choiceP : List P → P
  | [] => fun _ => none
  | p :: ps => fun i => match p i with
    | some r => some r
    | none => choiceP ps i

/-- literal; `f` is the case folding applied to the input rune (`id` without the `i` flag), the
    literal's runes are already folded by the builder -/
def litP (f : Rune → Rune) : List Rune → P
  | [] => fun i => some i
  | c :: cs => fun i => match i with
    | r :: rest => if f r = c then litP f cs rest else none
    | [] => none

/-- character class given by its membership predicate on the (folded) rune; never matches at EOF -/
def clsP (f : Rune → Rune) (mem : Rune → Bool) : P
  | r :: rest => if mem (f r) then some rest else none
  | [] => none

theorem seqP_append (a b : List P) : seqP (a ++ b) = fun i => (seqP a i).bind (seqP b) := by
  induction a with
  | nil => funext i; simp [seqP]
  | cons p ps ih =>
    funext i
    simp only [List.cons_append, seqP, ih]
    cases p i <;> simp

theorem choiceP_append (a b : List P) :
    choiceP (a ++ b) = fun i => match choiceP a i with | some r => some r | none => choiceP b i := by
  induction a with
  | nil => funext i; simp [choiceP]
  | cons p ps ih =>
    funext i
    simp only [List.cons_append, choiceP, ih]
    cases p i <;> simp

/-- **"resolve sequence expressions with only one element"** -/
theorem C09_seq_singleton (p : P) : seqP [p] = p := by
  funext i; simp only [seqP]; cases p i <;> simp

/-- **"resolve choice expressions with only one alternative"** -/
theorem C09_choice_singleton (p : P) : choiceP [p] = p := by
  funext i; simp only [choiceP]; cases p i <;> simp

/-- **"resolve nested sequences"**: a sequence nested in a sequence can be spliced in, at any position -/
theorem C09_seq_flatten (a b c : List P) : seqP (a ++ [seqP b] ++ c) = seqP (a ++ b ++ c) := by
  funext i
  simp only [List.append_assoc, seqP_append, List.singleton_append, seqP]

/-- **"resolve nested choice expressions"**: ordered choice is associative -/
theorem C09_choice_flatten (a b c : List P) : choiceP (a ++ [choiceP b] ++ c) = choiceP (a ++ b ++ c) := by
  funext i
  simp only [List.append_assoc, choiceP_append, List.singleton_append, choiceP]

theorem litP_append (f : Rune → Rune) (a b : List Rune) :
    litP f (a ++ b) = fun i => (litP f a i).bind (litP f b) := by
  induction a with
  | nil => funext i; simp [litP]
  | cons c cs ih =>
    funext i
    cases i with
    | nil => simp [litP]
    | cons r rest =>
      simp only [List.cons_append, litP, ih]
      split <;> simp

/-- **"combine sequence of LitMatcher"**: `"a" "b"` ≡ `"ab"` (same `i` flag) -/
theorem C09_lit_concat (f : Rune → Rune) (a b : List Rune) : seqP [litP f a, litP f b] = litP f (a ++ b) := by
  funext i
  simp only [seqP, litP_append]
  cases litP f a i with
  | none => rfl
  | some j => simp only [Option.bind]; cases litP f b j <;> simp

theorem lit1_is_class (f : Rune → Rune) (c : Rune) : litP f [c] = clsP f (fun r => r == c) := by
  funext i
  cases i with
  | nil => rfl
  | cons r rest => simp [litP, clsP]

/-- **"combine character class matcher and literal matcher"**: for NON-inverted classes the choice
    of two classes is the class of the union of their members (`"a" / "b"`, `"a" / [bc]`,
    `[ab] / "c"`, `[ab] / [cd]` are all instances, by `lit1_is_class`) -/
theorem C09_class_union (f : Rune → Rune) (m1 m2 : Rune → Bool) :
    choiceP [clsP f m1, clsP f m2] = clsP f (fun r => m1 r || m2 r) := by
  funext i
  cases i with
  | nil => rfl
  | cons r rest =>
    by_cases h1 : m1 (f r) = true <;> by_cases h2 : m2 (f r) = true <;> simp [choiceP, clsP, h1, h2]

theorem C09_lit_lit (f : Rune → Rune) (a b : Rune) :
    choiceP [litP f [a], litP f [b]] = clsP f (fun r => r == a || r == b) := by
  rw [lit1_is_class, lit1_is_class, C09_class_union]

/-- For INVERTED classes the union of the member lists is NOT the choice (finding D11):
    `[^a] / [^b]` accepts `a`, the merged `[^ab]` does not. -/
theorem C09_inverted_union_unsound :
    choiceP [clsP id (fun r => !(r == 97)), clsP id (fun r => !(r == 98))] [97]
      ≠ clsP id (fun r => !(r == 97 || r == 98)) [97] := by decide

/-- the sound law for two inverted classes: the members of the merged class would have to be the
    INTERSECTION of the two member sets -/
theorem C09_inverted_choice (f : Rune → Rune) (m1 m2 : Rune → Bool) :
    choiceP [clsP f (fun r => !m1 r), clsP f (fun r => !m2 r)] = clsP f (fun r => !(m1 r && m2 r)) := by
  rw [C09_class_union]
  exact congrArg (clsP f) (funext fun r => (Bool.not_and (m1 r) (m2 r)).symm)

/-- replacing a sub-recogniser by an equal one anywhere in a sequence or choice preserves the
    whole (so the local laws above apply under every context; rule inlining replaces a reference
    by the recogniser it denotes, which is the same function) -/
theorem C09_congr_seq (a c : List P) (p q : P) (h : p = q) : seqP (a ++ [p] ++ c) = seqP (a ++ [q] ++ c) := by
  rw [h]

theorem C09_congr_choice (a c : List P) (p q : P) (h : p = q) : choiceP (a ++ [p] ++ c) = choiceP (a ++ [q] ++ c) := by
  rw [h]

end Peg

namespace Opt

/-- **C09, language clause, for every output the validator accepts.** `g`: the grammar before `-optimize-grammar`, `g'`:
    what the optimizer made of it, `names`: the rules of `g'`. If the rules of `names` have syntactically equal normal
    forms in `g` and `g'` (`validate`; the normal form unfolds the rules selected by `inl` `k` levels deep, splices nested
    sequences and choices, concatenates adjacent literals, unites adjacent one-rune literals and non-inverted classes of a
    choice, drops one-element sequences and choices, and lists class members sorted without repetition — every step a
    proved equivalence), then each of these rules, started on any input, fails in `g'` iff it fails in `g` and succeeds
    in `g'` iff it succeeds in `g`, consuming the same prefix — under every case folding, every meaning of ranges and
    Unicode classes and every outcome of the code predicates (as functions of the block and the remaining input).
    Not in the semantics (so not covered): values and label scopes (actions, labels and state blocks are transparent),
    throw / recover (treated as failing / transparent: grammars with them are outside the theorem), and grammars on
    which some evaluation does not terminate are compared on their terminating runs only. -/
theorem C09_validated_output_preserves_the_language (S : Sem) (g g' : Gram) (inl inl' : String → Bool) (k : Nat)
    (names : List String) (h : validate g g' inl inl' k names = true) (n : String) (hn : n ∈ names) (i : List Rune)
    (r : Res) (hr : r ≠ .oof) :
    (∃ f, den S g f (.ref n) i = r) ↔ (∃ f, den S g' f (.ref n) i = r) :=
  validate_sound S h n hn i r hr

/-- the normal form itself never changes what an expression matches (same grammar; forward with the same depth) -/
theorem C09_normal_form_is_sound (S : Sem) (g : Gram) (inl : String → Bool) (k : Nat) (e : OE) (i : List Rune) (r : Res)
    (hr : r ≠ .oof) : (∃ f, den S g f e i = r) ↔ (∃ f, den S g f (nfK g inl k e) i = r) := by
  constructor <;> rintro ⟨f, rfl⟩
  · exact ⟨f, (nfK_sound S g inl k).1 f e i hr⟩
  · exact (nfK_sound S g inl k).2 e f i hr

namespace Example

/-- `A <- B "c" / [x-z] / "w" ; B <- "a" ("b")` optimizes to `A <- "abc" / [x-zw]` (B inlined and removed) -/
def before : Gram :=
  [("A", .choice [.seq [.ref "B", .lit [99] false], .cls [] [(120, 122)] [] false false, .lit [119] false]),
   ("B", .seq [.lit [97] false, .seq [.lit [98] false]])]
def after : Gram := [("A", .choice [.lit [97, 98, 99] false, .cls [119] [(120, 122)] [] false false])]

theorem accepted : validate before after (fun n => n == "B") (fun n => n == "B") 2 ["A"] = true := by decide +kernel

/-- merging the literal with an INVERTED class is not accepted -/
def afterBad : Gram := [("A", .choice [.lit [97, 98, 99] false, .cls [119] [(120, 122)] [] false true])]
theorem rejected : validate before afterBad (fun n => n == "B") (fun n => n == "B") 2 ["A"] = false := by decide +kernel

example (S : Sem) (i : List Rune) (r : Res) (hr : r ≠ .oof) :
    (∃ f, den S before f (.ref "A") i = r) ↔ (∃ f, den S after f (.ref "A") i = r) :=
  C09_validated_output_preserves_the_language S _ _ _ _ _ _ accepted "A" (by simp) i r hr

end Example

end Opt
end PV
