/-
  C03 — the grammar front-end accepts the documented syntax and builds the denoted AST.

  What of C03 is a theorem, and about which code:

  * `Model/ClassParse.lean` is a model of `(*ast.CharClassMatcher).parse` (ast/ast.go), the function that turns the text of
    a character class into the descriptor every later stage uses (flags, characters, ranges, Unicode class names): one Lean
    function per phase, byte-faithful (UTF-8 decoding as `strings.Reader.ReadRune`, `strconv.UnquoteChar` with its error
    cases). It is tied to the code by execution: `harness/cmd/pvclass` runs the real `ast.NewCharClassMatcher` and
    `pvdriver` the model on the same generated class texts (every escape form, ranges and dashes in every position, `\p`
    classes, `^`, `i`, stray bytes, truncations) and the descriptors are compared field by field on every run.
  * `C03_class_parse_roundtrip` (proof in `Proofs/ClassRoundTrip.lean`, `Proofs/ClassRoundTrip2.lean`): PRINTING A CLASS BACK TO TEXT AND RE-PARSING YIELDS
    THE SAME CLASS, for every descriptor - any number of characters, ranges and class names, both flags, `-` anywhere.
    (It rests on the repair of finding D3, an escaped `-` read as the range operator (a `fix:` commit):
    `C03_D3_escaped_dash_is_a_character`.)
  * `C03_class_extraction_roundtrip` (C03Base.lean): the same for the extraction phase alone, on decoded runes.

  The universal round trip over all ASTs and layouts is decided by execution (`harness/cmd/pvfront`: generated ASTs printed
  in random spellings, parsed by the real front-end through the verif hook, compared node by node incl. positions), and the
  acceptance / diagnostics of the real tool are predicted by the runtime model run on the regenerated tables of
  `grammar/pigeon.peg` (`pv/front_model.py`).
-/
import PigeonVerif.Proofs.ClassRoundTrip2

namespace PV
namespace ClassParse

/-- **C03 — class round trip, whole function.** For every class descriptor - ignore-case flag, inverted flag, any list of
    Unicode class names, of single characters and of ranges - whose characters and range bounds are valid code points and
    whose class names are ASCII without `}`: the model of `(*ast.CharClassMatcher).parse` reads the canonical spelling
    `spell` (every code point as `\UXXXXXXXX`, the range operator plain) back as exactly that descriptor. No hypothesis
    about `-`: a `-` among the characters or as a range bound is read back as what it was (repair of finding D3). -/
theorem C03_class_parse_roundtrip (ic inv : Bool) (ns : List (List Rune)) (cs : List Rune) (rs : List (Rune × Rune))
    (hn : ∀ n ∈ ns, NameOK n) (hc : ∀ c ∈ cs, validRune c = true)
    (hr : ∀ p ∈ rs, validRune p.1 = true ∧ validRune p.2 = true) :
    parse (spell ic inv ns cs rs) =
      some { ignoreCase := ic, inverted := inv, chars := cs, ranges := flat rs, classes := ns } :=
  parse_spell ic inv ns cs rs hn hc hr

/-- **C03 — class round trip, members in any order.** For every SEQUENCE of members — Unicode class names, single characters,
    ranges, interleaved in any way, as a user writes a class and as a printer of the AST writes it — with valid code points and
    well-formed names, and both flags: the model of `(*ast.CharClassMatcher).parse` reads the spelling `spell2` (characters and
    range bounds as `\UXXXXXXXX`, the range operator plain, classes as `\p{Name}`) back as the characters in their order, the ranges
    in their order and the class names in their order. Needs the repairs of D3 (a `-` among the members) and of D36 (a class
    between two members does not turn the `-` behind it into the range operator). -/
theorem C03_class_parse_roundtrip_any_order (ic inv : Bool) (its : List Item) (hok : ∀ it ∈ its, it.ok) :
    parse (spell2 ic inv its) =
      some { ignoreCase := ic, inverted := inv, chars := itemChars its, ranges := itemRanges its, classes := itemNames its } :=
  parse_spell2 ic inv its hok

/-- an instance evaluated by the kernel: `[0\p{L}-9a-c\p{Nd}_]i` as a member sequence (`0`, L, `-`, `9`, a-c, Nd, `_`) -/
example : parse (spell2 true false [.chr 48, .cls [76], .chr 45, .chr 57, .rng 97 99, .cls [78, 100], .chr 95]) =
    some { ignoreCase := true, inverted := false, chars := [48, 45, 57, 95], ranges := [97, 99], classes := [[76], [78, 100]] } := by
  decide +kernel

/-- finding D3, with its repair (`fix:` commit in /repo): the class `a`, `-`, `c` - three single characters - spelled with every
    character escaped is read back as three characters. Without the repair it is read as the RANGE a-c: the decoded `-` is
    taken for the range operator whether or not it was written as an escape (`[a\x2dc]`). -/
theorem C03_D3_escaped_dash_is_a_character :
    parse (spell false false [] [97, 45, 99] []) =
      some { ignoreCase := false, inverted := false, chars := [97, 45, 99], ranges := [], classes := [] } := by
  decide +kernel

/-- a plain `-` between two characters is the range operator, as documented: the text `[a-c]` -/
theorem C03_plain_dash_is_the_range_operator :
    parse [91, 97, 45, 99, 93] = some { ignoreCase := false, inverted := false, chars := [], ranges := [97, 99], classes := [] } := by
  decide +kernel

/-- finding D36, with its repair (fix: a0fd15c in /repo): a Unicode class is no range bound. The text `[0\pL-9]` is, by the
    front-end grammar (`ClassCharRange ← ClassChar '-' ClassChar`; `\pL` is no `ClassChar`), the character `0`, the class
    `L`, the character `-` and the character `9`. Without the repair `parse` drops the class from the rune sequence before
    looking for ranges and reads the RANGE 0-9 (so the class matches `5` and does not match `-`). -/
theorem C03_D36_dash_after_a_class_is_a_character :
    parse [91, 48, 92, 112, 76, 45, 57, 93] =    -- `[0\pL-9]`
      some { ignoreCase := false, inverted := false, chars := [48, 45, 57], ranges := [], classes := [[76]] } := by
  decide +kernel

/-- finding D36 for a `-` BEFORE a class: `[a-\pLz]` is `a`, `-`, the class `L`, `z` (without the repair: the range a-z) -/
theorem C03_D36_dash_before_a_class_is_a_character :
    parse [91, 97, 45, 92, 112, 76, 122, 93] =
      some { ignoreCase := false, inverted := false, chars := [97, 45, 122], ranges := [], classes := [[76]] } := by
  decide +kernel

/-- a complete range next to a class stays a range: `[a-c\p{Lu}x-z]` -/
theorem C03_range_next_to_a_class_is_a_range :
    parse [91, 97, 45, 99, 92, 112, 123, 76, 117, 125, 120, 45, 122, 93] =
      some { ignoreCase := false, inverted := false, chars := [], ranges := [97, 99, 120, 122], classes := [[76, 117]] } := by
  decide +kernel

/-- a bracketed text is never rejected by `parse` (the slicing cannot go out of bounds on what the grammar hands over) -/
theorem C03_class_parse_total_on_bracketed (ic inv : Bool) (body : List Nat)
    (hhead : ∀ x rest, body = x :: rest → x = 92) :
    (parse (91 :: ((if inv then [94] else []) ++ body ++ 93 :: (if ic then [105] else [])))).isSome = true := by
  rw [parse_shape ic inv body hhead]; rfl

/-- octal escapes above `\377` and the escapes `\'` / `\"` silently become the character 0 (`strconv.UnquoteChar` reports an
    error that `parse` ignores); the front-end grammar does not let `\'` / `\"` through, `\400`…`\777` it does -/
theorem C03_big_octal_becomes_nul : parse [91, 92, 55, 55, 55, 93] =   -- the text `[\777]`
    some { ignoreCase := false, inverted := false, chars := [0], ranges := [], classes := [] } := by
  decide +kernel

end ClassParse
end PV
