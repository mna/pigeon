/-
  C03 — ingredient: the last phase of `CharClassMatcher.parse` (ast.go: "extract ranges and chars") on the decoded runes.

  Each decoded rune carries the mark "was written as an escape sequence". With the repair of finding D3 an escaped `-` is a
  character and never the range operator, so the extraction inverts the printer for EVERY list of characters and ranges when
  characters are written escaped and the operator plain, with no hypothesis on `-` (without the repair the decoded sequence
  `a`, `-`, `c` is a range whether or not the `-` was escaped).
-/
import PigeonVerif.Model.ClassParse

namespace PV
namespace ClassParse

/-- escaped single characters -/
def markChars (cs : List Rune) : List (Rune × Bool) := cs.map (fun c => (c, true))

/-- the printer of ranges on the decoded level: `lo` (escaped) `-` (plain) `hi` (escaped) -/
def printRanges : List (Rune × Rune) → List (Rune × Bool)
  | [] => []
  | (lo, hi) :: rest => (lo, true) :: (dash, false) :: (hi, true) :: printRanges rest

def flat : List (Rune × Rune) → List Rune
  | [] => []
  | (lo, hi) :: rest => lo :: hi :: flat rest

theorem run_append_nonlast (s : St) (r : Rune × Bool) (rest : List (Rune × Bool)) (h : rest ≠ []) :
    run s (r :: rest) = run (step s r.1 r.2 false) rest := by
  cases rest with
  | nil => exact absurd rfl h
  | cons r' rest' => rfl

theorem run_cons {s s' : St} {c : Rune} {esc : Bool} (h : ∀ last, step s c esc last = s') (rest : List (Rune × Bool)) :
    run s ((c, esc) :: rest) = run s' rest := by
  cases rest with
  | nil => exact h true
  | cons r' rest => exact congrArg (run · (r' :: rest)) (h false)

theorem step_escaped (s : St) (c : Rune) (last : Bool) (hin : s.inRange = false) :
    step s c true last = { s with chars := s.chars ++ [c], wasRange := false } := by
  unfold step; simp [hin]

theorem run_escaped (s : St) (c : Rune) (rest : List (Rune × Bool)) (hin : s.inRange = false) :
    run s ((c, true) :: rest) = run { s with chars := s.chars ++ [c], wasRange := false } rest :=
  run_cons (fun last => step_escaped s c last hin) rest

theorem run_range (s : St) (lo hi : Rune) (rest : List (Rune × Bool)) (hin : s.inRange = false) :
    run s ((lo, true) :: (dash, false) :: (hi, true) :: rest) =
      run { chars := s.chars, ranges := s.ranges ++ [lo, hi], inRange := false, wasRange := true } rest := by
  rw [run_escaped s lo _ hin, run_append_nonlast _ _ _ (List.cons_ne_nil _ _)]
  -- the operator takes `lo` back from the characters and opens the range; `hi` closes it, in the last position or not
  exact run_cons (fun last => by simp [step, hin]) rest

/-- a member of a class: a Unicode class name, a single character, a range -/
inductive Item where
  | cls (n : List Rune)
  | chr (c : Rune)
  | rng (lo hi : Rune)

/-- what the decoding loop appends to the rune list for one member -/
def decItem : Item → List (Rune × Bool)
  | .cls _ => []
  | .chr c => [(c, true)]
  | .rng lo hi => [(lo, true), (dash, false), (hi, true)]

def decItems : List Item → List (Rune × Bool)
  | [] => []
  | it :: its => decItem it ++ decItems its

def itemChars : List Item → List Rune
  | [] => []
  | .chr c :: its => c :: itemChars its
  | _ :: its => itemChars its

def itemRanges : List Item → List Rune
  | [] => []
  | .rng lo hi :: its => lo :: hi :: itemRanges its
  | _ :: its => itemRanges its

theorem run_items : ∀ (its : List Item) (s : St), s.inRange = false →
    ∃ w, run s (decItems its) =
      { chars := s.chars ++ itemChars its, ranges := s.ranges ++ itemRanges its, inRange := false, wasRange := w } := by
  intro its
  induction its with
  | nil => exact fun s hin => ⟨s.wasRange, by rw [← hin]; simp [itemChars, itemRanges]; rfl⟩
  | cons it its ih =>
    intro s hin
    cases it with
    | cls _ => exact ih s hin
    | chr c =>
      obtain ⟨w, h⟩ := ih { s with chars := s.chars ++ [c], wasRange := false } hin
      rw [List.append_assoc] at h
      exact ⟨w, (run_escaped s c _ hin).trans h⟩
    | rng lo hi =>
      obtain ⟨w, h⟩ := ih { chars := s.chars, ranges := s.ranges ++ [lo, hi], inRange := false, wasRange := true } rfl
      rw [List.append_assoc] at h
      exact ⟨w, (run_range s lo hi _ hin).trans h⟩

theorem extract_items (its : List Item) : extract (decItems its) = (itemChars its, itemRanges its) := by
  obtain ⟨w, h⟩ := run_items its { chars := [], ranges := [], inRange := false, wasRange := false } rfl
  exact congrArg (fun s => (s.chars, s.ranges)) h

def canon (ns : List (List Rune)) (cs : List Rune) (rs : List (Rune × Rune)) : List Item :=
  ns.map .cls ++ (cs.map .chr ++ rs.map fun p => .rng p.1 p.2)

/-- each side is computed member by member: a class contributes to none of the three lists -/
theorem canon_dec (ns : List (List Rune)) (cs : List Rune) (rs : List (Rune × Rune)) :
    decItems (canon ns cs rs) = markChars cs ++ printRanges rs ∧
      itemChars (canon ns cs rs) = cs ∧ itemRanges (canon ns cs rs) = flat rs := by
  induction ns with
  | cons n ns ih => exact ih
  | nil =>
    induction cs with
    | cons c cs ih => exact ⟨congrArg (_ :: ·) ih.1, congrArg (_ :: ·) ih.2.1, ih.2.2⟩
    | nil =>
      induction rs with
      | nil => exact ⟨rfl, rfl, rfl⟩
      | cons p rs ih => exact ⟨congrArg (_ :: _ :: _ :: ·) ih.1, ih.2.1, congrArg (_ :: _ :: ·) ih.2.2⟩

/-- **C03 (class extraction round trip)** for EVERY list of single characters and EVERY list of ranges: extracting from the
    decoded form of the canonical spelling (characters and range bounds escaped, the range operator plain) gives back exactly
    those characters and ranges - a `-` among the characters or as a range bound included. -/
theorem C03_class_extraction_roundtrip (cs : List Rune) (rs : List (Rune × Rune)) :
    extract (markChars cs ++ printRanges rs) = (cs, flat rs) := by
  obtain ⟨hd, hc, hr⟩ := canon_dec [] cs rs
  rw [← hd, extract_items, hc, hr]

/-- finding D3 on the decoded level: `a`, `-`, `c` with a PLAIN `-` is the range a-c (as it must be) -/
example : extract [(97, false), (45, false), (99, false)] = ([], [97, 99]) := by decide +kernel
/-- finding D3 on the decoded level: `a`, `-`, `c` with an ESCAPED `-` (`[a\x2dc]`) is three characters (without the repair:
    the same range) -/
example : extract [(97, false), (45, true), (99, false)] = ([97, 45, 99], []) := by decide +kernel

end ClassParse
end PV
