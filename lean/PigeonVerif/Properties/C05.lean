/-
  C05 — backtracking rolls back the state store; globalStore is never rolled back.
  Theorems about the runtime model `RT` (all grammars, code blocks, flags, options,
  inputs, fuel; memoization and left recursion included).
-/
import PigeonVerif.Proofs.SpecErrs
import PigeonVerif.Proofs.FrameProof

namespace PV
namespace RT

section
variable {E : Env} {rec : Expr → PState → Outcome}

/-- whatever a predicate (`&e`, `!e`, `&{…}`, `!{…}`) returns, the store is the one from before -/
theorem pred_restores (hrec : ∀ e s, FrameInv E s (rec e s)) (k : Nat) {e : Expr} (s : PState) (hm : MemoOK s)
    (hk : (∃ id e1, e = .and id e1) ∨ (∃ id e1, e = .not id e1) ∨ (∃ id b, e = .andCode id b) ∨ (∃ id b, e = .notCode id b)) :
    (parseExprBody E rec k e s).Sat (fun _ _ s' => s'.state = s.state) (fun _ => True) := by
  rcases hk with ⟨id, e1, rfl⟩ | ⟨id, e1, rfl⟩ | ⟨id, b, rfl⟩ | ⟨id, b, rfl⟩
  · exact Outcome.Sat.bind (wrap_frame hrec e1 (pushV s) hm) (hp := fun _ _ => trivial)
      fun _ _ _ h => (h.pushpop.back false).failState rfl
  · exact Outcome.Sat.bind (wrap_frame hrec e1 { pushV s with maxFailInvert := !s.maxFailInvert } hm)
      (hp := fun _ _ => trivial) fun _ _ _ h => (h.uninvert.pushpop.back false).failState rfl
  · exact runCodeBlock_sat hm b (fun r s2 => .done .nil r.retB (RT.restoreState E s2 s.state)) trivial
      fun _ _ h2 _ => restoreState_state h2.stk
  · exact runCodeBlock_sat hm b (fun r s2 => .done .nil (!r.retB) (RT.restoreState E s2 s.state)) trivial
      fun _ _ h2 _ => restoreState_state h2.stk

/-- an action's own writes to the store are discarded when it returns -/
theorem action_discards (blk : Nat) (e1 : Expr) (s : PState) :
    (parseAction E rec blk e1 s).Sat
      (fun _ ok s' => ok = true →
        ∃ v1 s1, parseExprWrap E rec e1 s = .done v1 true s1 ∧ s'.state = s1.state)
      (fun _ => True) := by
  unfold parseAction
  cases parseExprWrap E rec e1 s with
  | oof => trivial
  | panic p s1 => trivial
  | done v1 ok1 s1 =>
    cases ok1 with
    | false => exact nofun
    | true =>
      simp only [Outcome.bind, if_true]
      split
      · trivial
      · exact fun _ => ⟨v1, s1, rfl,
          restoreState_state_of fun hu => addErrAtOpt.state.trans ((Stk.callBlock blk _).noState hu)⟩

/-- the effect of a state-change block persists: the store after it is what the block left -/
theorem stateCode_persists (blk : Nat) (s : PState) (hu : E.useState = true) :
    (parseStateCode E blk s).Sat
      (fun _ ok s' => ok = true ∧ s'.state = (E.code.run blk
          { pos := s.curPos, text := s.curText,
            args := (E.code.args blk).map (fun n => (lookup n (s.vstack.headD [])).getD .nil),
            state := s.state, global := s.global, calli := s.nCalls }).state)
      (fun _ => True) := by
  unfold parseStateCode
  simp only [hu, Bool.not_true, Bool.false_eq_true, if_false]
  exact runCodeBlock_cases (Q := (Outcome.Sat · _ _)) (fun _ _ => trivial) fun _ =>
    ⟨rfl, by simp [RT.callBlock, hu]⟩

end

/-- every state the parser starts from satisfies the side conditions of the theorems -/
theorem initState_ok (E : Env) : MemoOK (initState E) ∧ GInv E (initState E) :=
  ⟨fun _ h => by simp [initState] at h, rfl⟩

/-- **C05 (a)** An expression that fails leaves the state store exactly as it was before it
    started — whatever happened inside (state blocks, in-place mutations, nested backtracking). -/
theorem C05_fail_restores (E : Env) (f : Nat) (e : Expr) (s s' : PState) (v : Val)
    (hm : MemoOK s) (h : parseExpr E f e s = .done v false s') : s'.state = s.state :=
  (parseExpr_framed hm h).failState rfl

/-- **C05 (b)** After a `&`/`!` predicate (syntactic or code), matched or not, the store is the
    store from before the predicate. -/
theorem C05_pred_restores (E : Env) (f : Nat) (e : Expr) (s s' : PState) (v : Val) (ok : Bool)
    (hm : MemoOK s)
    (hk : (∃ id e1, e = .and id e1) ∨ (∃ id e1, e = .not id e1) ∨
          (∃ id b, e = .andCode id b) ∨ (∃ id b, e = .notCode id b))
    (h : parseExpr E f e s = .done v ok s') : s'.state = s.state := by
  cases f with
  | zero => nomatch h
  | succ f => exact parseExpr_done_sat h (pred_restores (parseExpr_frame E f) f (bump s) (hm.congr rfl) hk)

/-- **C05 (c)** What an action block writes to the store is discarded when it returns: after a
    successful action the store is the one its expression left. -/
theorem C05_action_discards (E : Env) (f : Nat) (id blk : Nat) (e1 : Expr) (s s' : PState) (v : Val)
    (h : parseExpr E (f + 1) (.action id blk e1) s = .done v true s') :
    ∃ v1 s1, parseExprWrap E (parseExpr E f) e1 (bump s) = .done v1 true s1 ∧ s'.state = s1.state :=
  parseExpr_done_sat h (action_discards (E := E) (rec := parseExpr E f) blk e1 (bump s)) rfl

/-- **C05 (d)** The effect of a state-change block persists: the store after `#{…}` is exactly
    the store the block left (so successive blocks compose in execution order). -/
theorem C05_state_block_persists (E : Env) (f : Nat) (id blk : Nat) (s s' : PState) (v : Val) (ok : Bool)
    (hu : E.useState = true)
    (h : parseExpr E (f + 1) (.stateCode id blk) s = .done v ok s') :
    ok = true ∧ s'.state = (E.code.run blk
        { pos := s.curPos, text := s.curText,
          args := (E.code.args blk).map (fun n => (lookup n (s.vstack.headD [])).getD .nil),
          state := s.state, global := s.global, calli := s.nCalls }).state :=
  parseExpr_done_sat h (stateCode_persists (E := E) blk (bump s) hu)

/-- **C05 (e)** `globalStore` is never touched by the parser: at every normal return it is what the
    most recent code block left (or the initial one) — no backtracking, predicate, memo hit or
    seed-growing iteration ever reverts it. -/
theorem C05_global_never_reverted (E : Env) (f : Nat) (e : Expr) (s s' : PState) (v : Val) (ok : Bool)
    (hm : MemoOK s) (hg : GInv E s) (h : parseExpr E f e s = .done v ok s') : GInv E s' :=
  (parseExpr_framed hm h).stk.ginv hg

/-- non-vacuity: the hypotheses hold of the initial state of every parse -/
example (E : Env) : MemoOK (initState E) ∧ GInv E (initState E) := initState_ok E

/-! ### kernel-evaluated witness of finding D6 (the model reproduces the code) -/

namespace WitnessC05

def lit (id : Nat) (s : String) : Expr := .lit id (s.toList.map (·.toNat)) false ("\"" ++ s ++ "\"")

/-- `S <- E "!" / E "?"` ; `E <- E "+" N #{ n++ } / N` (leader) ; `N <- "1" / "2"` -/
def rulesD6 : List Rule :=
  [ { name := "S", displayName := "", leader := false, leftRecursive := false,
      expr := .choice 1 1 6 [.seq 2 [.ruleRef 3 "E", lit 4 "!"], .seq 5 [.ruleRef 6 "E", lit 7 "?"]] },
    { name := "E", displayName := "", leader := true, leftRecursive := true,
      expr := .choice 8 2 6 [.seq 9 [.ruleRef 10 "E", lit 11 "+", .ruleRef 12 "N", .stateCode 13 1], .ruleRef 14 "N"] },
    { name := "N", displayName := "", leader := false, leftRecursive := false,
      expr := .choice 15 3 6 [lit 16 "1", lit 17 "2"] } ]

/-- the iteration the grammar denotes: `E <- N ("+" N #{ n++ })*` -/
def rulesD6iter : List Rule :=
  [ { name := "S", displayName := "", leader := false, leftRecursive := false,
      expr := .choice 1 1 6 [.seq 2 [.ruleRef 3 "E", lit 4 "!"], .seq 5 [.ruleRef 6 "E", lit 7 "?"]] },
    { name := "E", displayName := "", leader := false, leftRecursive := false,
      expr := .seq 8 [.ruleRef 9 "N", .zeroOrMore 10 (.seq 11 [lit 12 "+", .ruleRef 13 "N", .stateCode 14 1])] },
    { name := "N", displayName := "", leader := false, leftRecursive := false,
      expr := .choice 15 3 6 [lit 16 "1", lit 17 "2"] } ]

def counter (st : Store) : Int := match st.get "n" with | some (.int k) => k | _ => 0

def envD6 (rules : List Rule) (lr : Bool) : Env :=
  { flags := { optimize := false, globalState := true, leftRec := lr, basicLatin := false },
    opts := {}, rules := rules,
    code := { args := fun _ => [],
              run := fun _ ctx => { state := ctx.state.set "n" (.int (counter ctx.state + 1)), global := ctx.global } },
    toLower := id, input := "1+2?".toList.map (·.toNat) }

def finalCount : Final → Option Int
  | .ret _ [] s => some (counter s.state)
  | _ => none

/-- **Finding D6 on the model**: `1+2?` is matched by the second alternative of `S`, whose `E` contains
    one `#{ n++ }`; the iterative grammar ends with `n = 1`, the left-recursive one with `n = 0`: the second
    `E` is answered from the leader's memo entry (written while the first alternative was tried), and the
    state effects of the memoised parse — rolled back when the first alternative failed — are not replayed. -/
theorem C05_D6_leader_memo_hit_drops_state_effects :
    finalCount (parse (envD6 rulesD6iter false) 40) = some 1 ∧ finalCount (parse (envD6 rulesD6 true) 40) = some 0 := by
  decide +kernel

end WitnessC05

end RT
end PV

/-! ### the same, declaratively: the PEG specification

  `Spec.eval` (Spec/Peg.lean) threads the store through the evaluation and rolls it back explicitly where PEG backtracks. These two
  theorems say that those are the right places; with `C01_runtime_is_peg` they hold of the runtime in the plain configuration (the
  theorems above state the same for the runtime directly, in every configuration). -/

namespace PV
namespace Spec

/-- **C05, declaratively: an expression that fails leaves the store as it found it.** For every grammar with state-change blocks, code
    environment, input, depth, context and start world: if the evaluation of `e` FAILS, the world the failure carries has the store of the
    world the evaluation started with - whatever happened inside: state-change blocks, nested backtracking, recovered throws, rule calls. -/
theorem C05_spec_failure_keeps_store (E : Env) (hu : E.useState = true) (f : Nat) (c : Ctx) (e : Expr) (env env' : List (String × Val))
    (pt : Savepoint) (w w' : World) (h : eval E f c e env pt w = .fail env' w') : w'.state = w.state :=
  (h ▸ eval_since E f c e env pt w : Since E w w.state (.fail env' w')).2 hu

/-- **… and after a `&e` / `!e` predicate, matched or not, the store is the store from before it.** -/
theorem C05_spec_predicate_keeps_store (E : Env) (hu : E.useState = true) (f : Nat) (c : Ctx) (e : Expr) (env env' : List (String × Val))
    (pt pt' : Savepoint) (w w' : World) (v : Val) (hk : (∃ id e1, e = .and id e1) ∨ (∃ id e1, e = .not id e1))
    (h : eval E (f + 1) c e env pt w = .ok v pt' env' w') : w'.state = w.state := by
  rcases hk with ⟨id, e1, rfl⟩ | ⟨id, e1, rfl⟩
  · rcases Res.on_eq_ok (r := eval E f c e1 [] pt w) h with ⟨_, _, _, _, _, h⟩ | ⟨_, _, _, h⟩ <;> cases h
    exact rollback_state E hu _ _
  · rcases Res.on_eq_ok (r := eval E f { c with neg := !c.neg } e1 [] pt w) h with ⟨_, _, _, _, _, h⟩ | ⟨_, _, _, h⟩ <;> cases h
    exact rollback_state E hu _ _

end Spec
end PV
