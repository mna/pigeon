/-
  C04 — every accepted grammar yields Go code that compiles, vets and initialises.
  "Compiles and vets" is a statement about the Go toolchain and is decided by execution
  (harness/cmd/pve2e). Kernel-checked here: the naming scheme of the generated methods, and the last sentence of the
  property - "each code block becomes exactly one method that receives exactly the labels in its scope" - for the model
  `Back.walk` of the generator's label stack (Model/Back.lean), which is tied to the real generator by the REGENERATED
  obligations of `PigeonVerif/Generated/*` (the parameter lists the working tree's pigeon writes for every grammar of the
  repository are read back from the emitted `callon…` methods and must equal `Back.assign`, by `decide`) and by `pve2e`.
-/
import Std.Data.String.ToNat
import PigeonVerif.Proofs.Scope

namespace PV
namespace Back

/-- `builder.funcName`: "on" + rule name + expression index -/
def funcName (rule : String) (ix : Nat) : String := "on" ++ rule ++ toString ix

/-- finding D4 (known): the scheme is not injective on (rule, index) — rule `A` with a code block at
    expression index 11 and rule `A1` with one at index 1 both get `onA11`, and the generated file
    declares the method twice -/
theorem C04_funcName_not_injective : funcName "A" 11 = funcName "A1" 1 ∧ ("A", 11) ≠ ("A1", 1) := by decide +kernel

/-- within one rule the index alone distinguishes the methods -/
theorem C04_funcName_injective_in_rule (rule : String) (i j : Nat) (h : funcName rule i = funcName rule j) :
    i = j := by
  unfold funcName at h
  have h1 : (toString i : String) = toString j := by
    have := congrArg String.toList h
    simp only [String.toList_append] at this
    exact String.ext (List.append_cancel_left this)
  exact Nat.repr_injective h1

mutual
/-- the code blocks of an expression, in the order the generator renders them -/
def codeBlocks : Expr → List Nat
  | .action _ blk e => codeBlocks e ++ [blk]
  | .andCode _ blk | .notCode _ blk | .stateCode _ blk => [blk]
  | .labeled _ _ e | .and _ e | .not _ e | .oneOrMore _ e | .zeroOrMore _ e | .zeroOrOne _ e => codeBlocks e
  | .choice _ _ _ es | .seq _ es => codeBlocksL es
  | .recovery _ e r _ => codeBlocks e ++ codeBlocks r
  | .any _ | .cls _ _ | .lit _ _ _ _ | .ruleRef _ _ | .throw _ _ => []
def codeBlocksL : List Expr → List Nat
  | [] => []
  | e :: es => codeBlocks e ++ codeBlocksL es
end

mutual
theorem walk_blocks (cur : List String) : ∀ e : Expr, (walk cur e).2.map (·.1) = codeBlocks e
  | .action _ blk e => by
    show ((walk cur e).2 ++ [(blk, (walk cur e).1)]).map (·.1) = codeBlocks e ++ [blk]
    rw [List.map_append, walk_blocks cur e]; rfl
  | .andCode .. | .notCode .. | .stateCode .. => rfl
  | .labeled _ _ e | .and _ e | .not _ e | .oneOrMore _ e | .zeroOrMore _ e | .zeroOrOne _ e => walk_blocks [] e
  | .choice _ _ _ es => walkAlts_blocks es
  | .recovery _ e r _ => by
    show ((walk [] e).2 ++ (walk (walk [] e).1 r).2).map (·.1) = codeBlocks e ++ codeBlocks r
    rw [List.map_append, walk_blocks [] e, walk_blocks _ r]
  | .seq _ es => walkSeq_blocks cur es
  | .any _ | .cls .. | .lit .. | .ruleRef .. | .throw .. => rfl
theorem walkSeq_blocks (cur : List String) : ∀ es : List Expr, (walkSeq cur es).2.map (·.1) = codeBlocksL es
  | [] => rfl
  | e :: es => by
    show ((walk cur e).2 ++ (walkSeq (walk cur e).1 es).2).map (·.1) = codeBlocks e ++ codeBlocksL es
    rw [List.map_append, walk_blocks cur e, walkSeq_blocks _ es]
theorem walkAlts_blocks : ∀ es : List Expr, (walkAlts es).map (·.1) = codeBlocksL es
  | [] => rfl
  | e :: es => by
    show ((walk [] e).2 ++ walkAlts es).map (·.1) = codeBlocks e ++ codeBlocksL es
    rw [List.map_append, walk_blocks [] e, walkAlts_blocks es]
end

/-- **C04 (one method per code block).** The generator renders one (block, parameter list) pair per code-bearing node of the
    grammar, in visiting order - nothing is rendered twice, nothing is skipped (whatever the label stack holds). -/
theorem C04_one_method_per_code_block (rules : List Rule) :
    (assign rules).map (·.1) = rules.flatMap (fun r => codeBlocks r.expr) := by
  unfold assign
  induction rules with
  | nil => rfl
  | cons r rs ih => simp only [List.flatMap_cons, List.map_append, ih, walk_blocks]

/-- the generator appends, the runtime conses: if the scope was the generator's list `cur` before a match that binds `bs`,
    it is `cur ++ bs` after it (with `walk_cur`: the generator's list after the visit) -/
theorem keys_sync {ks ks' cur bs : List String} (h : ks' = bs.reverse ++ ks) (hcur : ks = cur.reverse) :
    ks'.reverse = cur ++ bs := by
  rw [h, hcur, List.reverse_append, List.reverse_reverse, List.reverse_reverse]

/-- **C04 (the labels in scope, dynamically).** In the PEG semantics (`Spec.eval`, which the runtime model refines), a
    successful match of `e` extends the scope it was started in by exactly `binds e`: the labels of the labelled items on the
    spine of `e`, in order - for every grammar, code environment, input and depth. Labels bound inside the scopes that `e`
    opens (alternatives, repetitions, predicates, labelled operands, rules) never escape. -/
theorem C04_scope_after_match (E : Env) (f : Nat) (c : Spec.Ctx) (e : Expr) (env : List (String × Val)) (pt : Savepoint)
    (w : Spec.World) (v : Val) (pt' : Savepoint) (env' : List (String × Val)) (w' : Spec.World)
    (hs : spine e = true) (h : Spec.eval E f c e env pt w = .ok v pt' env' w') :
    keys env' = (binds e).reverse ++ keys env :=
  (h ▸ env_binds E f c e env pt w hs : Adds _ _ (.ok v pt' env' w'))

/-- **C04 (an action receives exactly the labels in its scope).** Let the generator's current label list `cur` be the scope
    `env` in which the action `e1 {blk}` is started (as lists: the generator appends, the runtime conses). Then the parameter
    list the generator renders for `blk` is exactly the list of labels that are bound when the block is called, i.e. the
    scope after the operand has matched. -/
theorem C04_action_receives_its_scope (E : Env) (f : Nat) (c : Spec.Ctx) (id blk : Nat) (e1 : Expr)
    (env : List (String × Val)) (pt : Savepoint) (w : Spec.World) (v1 : Val) (pt1 : Savepoint)
    (env1 : List (String × Val)) (w1 : Spec.World) (cur : List String)
    (hs : spine e1 = true) (hcur : keys env = cur.reverse)
    (h : Spec.eval E f c e1 env pt w = .ok v1 pt1 env1 w1) :
    (blk, (keys env1).reverse) ∈ (walk cur (.action id blk e1)).2 := by
  show _ ∈ (walk cur e1).2 ++ [(blk, (walk cur e1).1)]
  rw [walk_cur, ← keys_sync (h ▸ env_binds E f c e1 env pt w hs : Adds _ _ (.ok v1 pt1 env1 w1)) hcur]
  exact List.mem_append_right _ (List.mem_singleton_self _)

/-- **C04 (a predicate / state block receives the labels bound so far), the generator's side.** In a sequence
    `es1 ++ [code block] ++ es2` the generator renders the block with the labels of `es1` appended to the current list. -/
theorem C04_block_in_sequence_static (cur : List String) (es1 es2 : List Expr) (b : Expr) :
    (walkSeq cur (es1 ++ b :: es2)).2 =
      (walkSeq cur es1).2 ++ (walk (cur ++ bindsSeq es1) b).2 ++ (walkSeq ((walk (cur ++ bindsSeq es1) b).1) es2).2 := by
  induction es1 generalizing cur with
  | nil => simp [walkSeq, bindsSeq]
  | cons e es ih =>
    simp only [List.cons_append, walkSeq, bindsSeq]
    rw [ih, walk_cur]
    simp [List.append_assoc]

/-- **C04 (a predicate / state block receives the labels bound so far), the run-time side.** The labels of `es1` appended to
    the generator's current list (`C04_block_in_sequence_static`) are exactly the labels bound when `es1` has matched (the point
    at which the block is called). -/
theorem C04_block_in_sequence_dynamic (E : Env) (f : Nat) (c : Spec.Ctx) (st0 : Store) (es1 : List Expr)
    (env : List (String × Val)) (pt : Savepoint) (w : Spec.World) (acc : List Val) (v : Val) (pt' : Savepoint)
    (env' : List (String × Val)) (w' : Spec.World) (cur : List String)
    (hs : spineSeq es1 = true) (hcur : keys env = cur.reverse)
    (h : Spec.evalSeq E (Spec.eval E f) c st0 es1 env pt w acc = .ok v pt' env' w') :
    (keys env').reverse = cur ++ bindsSeq es1 :=
  keys_sync (h ▸ seq_binds E (Spec.eval E f) (env_binds E f) c st0 es1 env pt w acc hs : Adds _ _ (.ok v pt' env' w')) hcur

/-- the hypotheses are satisfiable and the statement is not vacuous: `a:"x" b:("y" c:"z") {0}` - the action receives
    `a, b`; the label `c` of the nested scope does not escape -/
example :
    (walk [] (.action 1 0 (.seq 2 [.labeled 3 "a" (.lit 4 [120] false "x"),
        .labeled 5 "b" (.seq 6 [.lit 7 [121] false "y", .labeled 8 "c" (.lit 9 [122] false "z")])]))).2 = [(0, ["a", "b"])] := by
  decide +kernel

/-- comparison of the generator model with the parameter lists read back from an emitted parser (used by the regenerated
    obligations `PigeonVerif/Generated/*`) -/
def checkArgs (rules : List Rule) (args : List (Nat × List String)) : Bool :=
  args.all (fun p => (assign rules).lookup p.1 == some p.2) && (assign rules).length == args.length

end Back
end PV
