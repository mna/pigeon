/-
  C12 (f) — the report of a failed parse, read off the whole-parse contract (`C11_parse_contract`): what `Parse` returns is
  `Spec.finish` of what `Spec.parse` evaluates to, and for a failure without recorded errors that is the single error
  computed from the specification's log of terminal evaluations.
-/
import PigeonVerif.Properties.C11

namespace PV
namespace RT

/-- the error prefix of an error raised outside any rule -/
def topPrefix (E : Env) (pos : Pos) : String := Spec.errPrefix E { rule := none, handlers := [] } pos

/-- **C12 (f) — the report is declarative.** Plain configuration (no Memoize: finding D30; no budget; no
    left-recursive rules), any grammar, code environment, input and depth. If the PEG specification `Spec.parse`
    says the start rule does not match and no error was recorded (no code block returned one, no undecodable byte was
    read), then `Parse` returns exactly one error, and that error is computed from the specification's log of terminal
    evaluations `w.attempts` alone: position and expected labels are `book (firstPos E) w.attempts`, i.e.
    (`book_declarative`) the greatest offset at which a terminal failed outside - or matched inside - an odd number of
    `!`, and the labels of exactly those evaluations at that offset. -/
theorem C12_report_is_declarative (E : Env) (hp : Plain E) (fuel : Nat) (first : Rule) (rest : List Rule)
    (hr : E.rules = first :: rest) (r : Rule) (hf : E.findRule (entryName E first) = some r)
    (env : List (String × Val)) (w : Spec.World)
    (hs : Spec.parse E fuel = some (.fail env w)) (he : w.errs = []) :
    ∃ s, parse E fuel =
      .ret .nil [topPrefix E (book (firstPos E) w.attempts).1 ++ ": " ++
                 (noMatchMessage (book (firstPos E) w.attempts).2.reverse).1] s := by
  have h := C11_parse_contract E hp fuel
  simp only [Spec.run, hr, hf, hs, Spec.finish, he, List.isEmpty_nil, if_true] at h
  exact Final.view_eq_ret h

/-! #### the theorem is not vacuous: a failing parse, its log and its report, evaluated by the kernel -/

namespace WitnessC12

/-- `S <- !X "q" / X "z"` ; `X <- "a"` on `b` (the grammar of D30, Memoize off) -/
theorem spec_run :
    (match Spec.parse (envD30 false) 40 with
     | some (.fail _ w) => some (w.errs, events w.attempts)
     | _ => none) = some ([], [(0, "\"q\""), (0, "\"a\"")]) := by
  decide +kernel

example : errsOf (parse (envD30 false) 40) = some ["1:1 (0): no match found, expected: \"a\" or \"q\""] :=
  C12_D30_memo_hit_drops_an_expected_terminal.1

end WitnessC12

end RT
end PV
