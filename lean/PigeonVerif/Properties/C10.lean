/-
  C10 — -optimize-parser output is observationally equivalent to the standard parser.
-/
import PigeonVerif.Proofs.OptEquivNoState

namespace PV
namespace RT

/-- **C10** For every grammar (left-recursive ones included), code environment, input, option set
    with `Memoize` off (the default) and fuel: generating with or without `-optimize-parser` gives the
    same `parse` result — value, error list, final stores, block trace, everything — when the grammar
    has state-change blocks (the GlobalState template; the other three switches are arbitrary). -/
theorem C10_equiv (E : Env) (b : Bool) (hmz : E.opts.memoize = false)
    (hg : E.flags.globalState = true) (fuel : Nat) :
    parse (withOptimize E b) fuel = parse E fuel :=
  SameTop.parse ⟨.withOptimize E b hmz hg, rfl, rfl, by simp only [initState, useState_opt E b hg]; rfl⟩ (G := fun _ => True)
    (fun _ _ _ => trivial) (.of_eq rfl) 0 (fun _ => rfl) fun _ _ => trivial

/-- In the optimized template the `Memoize` option does not exist; the model ignores it there. -/
theorem C10_memoize_ignored_when_optimized (E : Env) (ho : E.flags.optimize = true)
    (rec : Expr → PState → Outcome) (e : Expr) (s : PState) : parseExprWrap E rec e s = rec e s := by
  have h : E.memoize = false := by unfold Env.memoize; rw [ho]; exact Bool.and_false _
  rw [parseExprWrap_eq, h]; rfl

/-- **C10, grammars without state-change blocks.** Here `-optimize-parser` removes the state store
    altogether. For every such grammar (no `#{}` block in any rule; left-recursive ones included), every
    code environment whose blocks neither read nor write the store (in the optimized parser they cannot:
    `c.state` does not exist), every input, option set with `Memoize` off and fuel: the run of the
    optimized parser is the run of the standard parser with the store erased — same value, same error
    list, same global store, same sequence of code-block invocations with the same positions, texts
    and arguments. Together with `C10_equiv` this covers both template families. -/
theorem C10_equiv_no_state (E : Env) (hg : E.flags.globalState = false) (hmz : E.opts.memoize = false)
    (hb : StateBlind E) (hG : ∀ n r, E.findRule n = some r → r.expr.noState = true) (fuel : Nat) :
    (parse (withOptimize E false) fuel).mapS er = parse (withOptimize E true) fuel := by
  have hinit : er (initState (E1 E)) = initState (E2 E) := by
    simp only [initState, useState1, useState2 hg]; rfl
  have hstart : er (startState (E1 E)) = startState (E2 E) := by
    unfold startState
    rw [← hinit, ← er_read]
    rfl
  show (parse (E1 E) fuel).mapS er = parse (E2 E) fuel
  rw [parse_eq, parse_eq, show entryRule (E2 E) = entryRule (E1 E) from rfl]
  cases he : entryRule (E1 E) with
  | none =>
    show (noEntry (E1 E)).mapS er = noEntry (E2 E)
    unfold noEntry
    rw [← hinit, ← er_addErr]
    rfl
  | some r =>
    obtain ⟨n, hf⟩ := entryRule_find he
    have hi : Inv (startState (E1 E)) := by
      obtain ⟨errs, hs⟩ := startState_fields (E1 E)
      rw [hs]
      exact ⟨fun _ he => (nomatch he), fun _ he => nomatch he⟩
    show (finish (E1 E) _).mapS er = finish (E2 E) _
    rw [finish_er, ← hstart]
    exact congrArg _ (ruleWrap_er hg hmz (parseExpr_er E hg hmz hb hG fuel) (parseExpr_frame (E1 E) fuel) fuel r _ (hG n r hf) hi)

/-- the hypotheses of `C10_equiv_no_state` are satisfiable: a code environment whose blocks ignore the store -/
example (E : Env) (h : ∀ blk ctx, E.code.run blk ctx =
    { ret := .nil, retB := true, state := ctx.state, global := ctx.global }) : StateBlind E :=
  ⟨fun blk ctx st => by simp [h], fun blk ctx => by simp [h]⟩

end RT
end PV
