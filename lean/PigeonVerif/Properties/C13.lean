/-
  C13 — the tool is total: exit status logic of `main.go`.
  `Tool.exit` models the decision structure of `main()`: which outcome of which stage leads to
  which exit status. Termination and crash-freedom of the stages themselves are decided by
  execution (harness/cmd/pvtool), not here.
-/
import PigeonVerif.Model.Tool

namespace PV
namespace Tool

theorem exitBuild_nonzero (r : Run) (h : (!r.noBuild && (!r.buildOK || !r.formatOK)) = true) : exitBuild r ≠ 0 := by
  unfold exitBuild
  cases hn : r.noBuild
  · cases r.outOpens; · simp
    cases hb : r.buildOK; · simp
    cases hf : r.formatOK
    · cases r.writeOK <;> simp
    · rw [hn, hb, hf] at h; cases h
  · rw [hn] at h; cases h

theorem exitParse_nonzero (r : Run) (h : rejected r = true) : exitParse r ≠ 0 := by
  unfold exitParse
  cases hp : r.parseOK; · simp
  cases he : r.entrypointsKnown; · simp
  unfold rejected at h
  rw [hp, he] at h
  exact exitBuild_nonzero r h

/-- **C13 (exit status)** a grammar that is rejected never produces exit status 0 (help aside,
    which does not look at the grammar) -/
theorem C13_rejected_nonzero (r : Run) (hh : r.help = false) (h : rejected r = true) : exit r ≠ 0 := by
  unfold exit
  cases r.flagsParse; · simp
  rw [hh]
  by_cases hn : r.nargs > 1
  · simp [hn]
  cases r.inputOpens; · simp [hn]
  simp only [hn, Bool.not_true, Bool.false_eq_true, if_false]
  exact exitParse_nonzero r h

theorem ite_mem {α : Type} {l : List α} {c : Prop} [Decidable c] {a b : α} (ha : a ∈ l) (hb : b ∈ l) :
    (if c then a else b) ∈ l := by
  split <;> assumption

/-- the documented statuses are the only ones -/
theorem C13_status_set (r : Run) : exit r ∈ [0, 1, 2, 3, 4, 5, 6, 7, 8, 9] := by
  unfold exit exitParse exitBuild
  repeat' apply ite_mem
  all_goals decide

end Tool
end PV
