/-
  C15 — -optimize-basic-latin is a pure optimisation of character classes.
-/
import PigeonVerif.Model.Runtime

namespace PV
namespace RT

/-- the same environment with the `BasicLatinLookupTable` template switch set to `b` -/
def withBasicLatin (E : Env) (b : Bool) : Env := { E with flags := { E.flags with basicLatin := b } }

theorem classContains_bl (E : Env) (b : Bool) (c : ClassDesc) (r : Rune) :
    classContains (withBasicLatin E b) c r = classContains E c r := rfl

theorem basicLatinLookup_get (E : Env) (c : ClassDesc) (r : Nat) (h : r < 128) :
    (basicLatinLookup E c).getD r false = classContains E c r := by
  unfold basicLatinLookup
  simp [List.getD, h]

/-- **C15 (a)** the precomputed decision for each of the 128 Basic Latin runes equals the decision of
    the general matching procedure — for every class (any mix of characters, ranges and Unicode
    classes, with or without `^` and `i`) -/
theorem C15_table_eq_general (E : Env) (c : ClassDesc) (r : Nat) (h : r < 128) :
    ((basicLatinLookup E c).getD r false != c.inverted) = (classContains E c r != c.inverted) := by
  rw [basicLatinLookup_get E c r h]

theorem matchOne_bl (E : Env) (b : Bool) (s : PState) (w : String) :
    matchOne (withBasicLatin E b) s w = matchOne E s w := by
  unfold matchOne; rfl

/-- **C15 (b)** a parser generated with `-optimize-basic-latin` matches a class exactly when the
    parser generated without it does: for every class whose table was computed by
    `BasicLatinLookup`, every parser state (ASCII rune, non-ASCII rune, invalid byte, end of input)
    `parseCharClassMatcher` returns the same outcome in both template variants. -/
theorem C15_equiv (E : Env) (c : ClassDesc) (s : PState)
    (htab : c.basicLatin = basicLatinLookup E c) :
    parseCharClass (withBasicLatin E true) c s = parseCharClass (withBasicLatin E false) c s := by
  dsimp only [parseCharClass]
  rw [matchOne_bl, matchOne_bl]
  -- the two sides now differ in the switch only: without it the general procedure is taken, ...
  refine .trans ?_ (if_neg (c := (false && _) = true) Bool.false_ne_true).symm
  by_cases h : s.pt.rn < 128
  · -- ... with it, below 128, the table, which says what the general procedure says; the end of the input is not below 128
    refine .trans (if_pos (decide_eq_true h)) ?_
    rw [htab, basicLatinLookup_get E c _ h, if_neg (c := (_ && _) = true)]
    · rfl
    · intro h'
      rw [Bool.and_eq_true, decide_eq_true_iff] at h'
      exact absurd (h'.1 ▸ h) (by decide)
  · exact if_neg (by rw [decide_eq_false h]; exact Bool.false_ne_true)

/-- with the table switched off the table field is never read -/
theorem C15_table_unused_without_flag (E : Env) (c : ClassDesc) (tab : List Bool) (s : PState)
    (h : E.flags.basicLatin = false) :
    parseCharClass E { c with basicLatin := tab } s = parseCharClass E c s := by
  unfold parseCharClass
  rw [h]
  rfl

end RT
end PV
