/-
  C11 — the error contract of `Parse`, whole-parse form.

  `Properties/C11Base.lean` has the ingredients (de-duplication keeps the first occurrence in order, the prefix shape, panic
  containment on the runtime model). This file states the contract for a complete `Parse` call as ONE equation between the
  runtime model and the PEG specification:

      what the caller of Parse sees  =  Spec.run E fuel

  where `Spec.run` evaluates the start rule with the independent semantics `Spec.eval` and applies `Spec.finish`, the
  result contract written as a five-line function of the outcome (value + recorded errors de-duplicated; the single
  synthesised "no match" error computed from the log of terminal evaluations; a recovered panic as the final error at the
  place where the code block was called; the panic itself with `Recover(false)`). It is the top-level theorem of the
  runtime family: C01 (value, acceptance), C02/C05 (what code blocks saw: the trace inside the world), C11 (this file),
  C12 (the synthesised error) and C14 (handlers are an argument of `Spec.eval`) are all read off its right-hand side.
-/
import PigeonVerif.Properties.C12Base
import PigeonVerif.Properties.C01
import PigeonVerif.Proofs.SpecErrs

namespace PV
namespace RT

/-- what the caller of `Parse` sees of the model's final result -/
def Final.view : Final → Spec.Final
  | .oof => .oof
  | .ret v errs _ => .ret v errs
  | .panic p s => .panic p s.errs

theorem Final.view_eq_ret {x : Final} {v : Val} {errs : List String} (h : x.view = .ret v errs) : ∃ s, x = .ret v errs s := by
  cases x with
  | ret _ _ s => cases h; exact ⟨s, rfl⟩
  | _ => cases h

theorem firstPos_eq (E : Env) : Spec.firstPos E = firstPos E := rfl

theorem entry_inv (E : Env) (r : Rule) :
    Good E (pushV { startState E with rstack := [r] }) ∧ FI (firstPos E) (pushV { startState E with rstack := [r] }) ∧
    (pushV { startState E with rstack := [r] }).rstack = [r] := by
  refine ⟨C01_start_is_good E r, ?_, rfl⟩
  obtain ⟨errs, h⟩ := startState_fields E
  rw [h]; rfl

theorem parse_entry (E : Env) (hp : Plain E) (fuel : Nat) (first : Rule) (rest : List Rule)
    (hr : E.rules = first :: rest) (r : Rule) (hf : E.findRule (entryName E first) = some r) :
    parse E fuel = finish E ((parseExpr E fuel r.expr (pushV { startState E with rstack := [r] })).bind
      fun v ok s2 => .done v ok { popV s2 with rstack := (popV s2).rstack.tail }) := by
  have hrs0 : (startState E).rstack = [] := by obtain ⟨_, h⟩ := startState_fields E; rw [h]; rfl
  rw [(C01_parse_is_peg E hp fuel first rest hr r hf).2, parseRule_eq, wrap_eq hp.nomemo, hrs0]

/-- **the result contract commutes with the abstraction.** What `parse` makes of the entry rule's outcome (`parseRule`'s
    epilogue, then `finish`) is, as the caller sees it, `Spec.finish` of the abstract outcome - provided the outcome kept the
    rule stack (frame) and its farthest-failure record is the bookkeeping of its log (`FI`): the synthesised error is then
    the one `Spec.finish` computes from the log. -/
theorem finish_view (E : Env) (r : Rule) (s0 : PState) (o : Outcome) (h5 : s0.rstack = [r])
    (hfr : o.Sat (fun _ ok s' => Framed E s0 ok s') (fun s' => PanicPost E s0 s')) (hfi : o.FIOK (firstPos E)) :
    (finish E (o.bind fun v ok s2 => .done v ok { popV s2 with rstack := (popV s2).rstack.tail })).view =
      Spec.finish E (abs o) := by
  cases o with
  | oof => rfl
  | panic p s1 =>
    refine ite_rel (R := fun (x : Final) y => x.view = y) (fun _ => ?_) (fun _ => rfl)
    simp [Final.view, addErr, addErrAt, errPrefix_spec s1 _ { rule := s1.rstack.head?, handlers := [] } rfl, absW, absP]
  | done v ok s1 =>
    cases ok with
    | true => rfl
    | false =>
      simp only [Outcome.bind]
      by_cases he : s1.errs = []
      · have hrs : s1.rstack = [r] := by rw [← h5]; exact hfr.stk.rstack
        have hbk : (s1.maxFailPos, s1.maxFailExpected) = book (firstPos E) s1.attempts := hfi
        have hb1 : s1.maxFailPos = (book (firstPos E) s1.attempts).1 := by rw [← hbk]
        have hb2 : s1.maxFailExpected = (book (firstPos E) s1.attempts).2 := by rw [← hbk]
        rw [C12_single E v _ (by simpa [popV] using he)]
        have : (absW s1).errs.isEmpty = true := by simp [absW, he]
        simp only [abs, Spec.finish, this, if_true, Final.view, Spec.topErr, firstPos_eq]
        simp only [popV, errPrefix, hrs, List.tail_cons, Spec.errPrefix, hb1, hb2]
        rfl
      · have h1' : ({ popV s1 with rstack := (popV s1).rstack.tail } : PState).errs ≠ [] := by simpa [popV] using he
        rw [C12_not_synthesised E v _ h1']
        simp [abs, Spec.finish, Final.view, popV, absW, he]

/-- **C11 — the contract of a whole parse.** Plain configuration (no Memoize, no budget, no left-recursive rules), EVERY
    grammar, code environment, template variant, entry point, input and depth: value and error list returned by `Parse` are
    `Spec.run` - the start rule evaluated by the PEG specification, then the result contract `Spec.finish`. In particular
    (read off `Spec.finish` / `Spec.eval`): every error a code block returns is in the list, prefixed with file, position of
    its match and rule (`Spec.addErrAt` in the `action` / `andCode` / `notCode` / `stateCode` clauses), parsing continues
    after it (the clause returns `.ok` / `.fail` with the extended world), a value and errors can be returned together
    (`.ok v … w ↦ .ret v (dedupe w.errs)`), equal messages are reported once in order of first occurrence (`dedupe`:
    `C11_dedupe_nodup`, `C11_dedupe_mem`, `C11_dedupe_order`), a panic with `Recover(true)` becomes the final error with a
    nil value, and propagates with `Recover(false)`. -/
theorem C11_parse_contract (E : Env) (hp : Plain E) (fuel : Nat) : (parse E fuel).view = Spec.run E fuel := by
  cases hr : E.rules with
  | nil =>
    simp [parse, Spec.run, hr, Final.view, addErr, addErrAt, initState, dedupe_singleton, Spec.topErr, errPrefix,
      Spec.errPrefix, pt0]
  | cons first rest =>
    cases hf : E.findRule (entryName E first) with
    | none =>
      simp [parse, Spec.run, hr, hf, Final.view, addErr, addErrAt, initState, dedupe_singleton, Spec.topErr, errPrefix,
        Spec.errPrefix, pt0]
    | some r =>
      obtain ⟨hg, hfi, h5⟩ := entry_inv E r
      rw [parse_entry E hp fuel first rest hr r hf,
        finish_view E r _ _ h5 (parseExpr_frame E fuel r.expr _ hg.memo) (parseExpr_fi E (firstPos E) fuel r.expr _ hfi)]
      simp only [Spec.run, hr, hf, (C01_parse_is_peg E hp fuel first rest hr r hf).1]

/-- every parse is covered: `Plain` is met by any environment without the three features -/
example (E : Env) (h1 : E.opts.memoize = false) (h2 : E.opts.maxExpr = none)
    (h3 : ∀ n r, E.findRule n = some r → r.leftRecursive = false ∧ r.leader = false) (fuel : Nat) :
    (parse E fuel).view = Spec.run E fuel := C11_parse_contract E ⟨h1, h2, h3⟩ fuel

/-- a value and errors are returned together, each message once -/
theorem C11_contract_value_and_errors (E : Env) (v : Val) (pt : Savepoint) (env : List (String × Val)) (w : Spec.World) :
    Spec.finish E (.ok v pt env w) = .ret v (dedupe w.errs) := rfl

/-- a failed parse with recorded errors returns exactly those, each once, and a nil value -/
theorem C11_contract_failure_with_errors (E : Env) (env : List (String × Val)) (w : Spec.World) (h : w.errs ≠ []) :
    Spec.finish E (.fail env w) = .ret .nil (dedupe w.errs) := by
  simp [Spec.finish, List.isEmpty_eq_false_iff.2 h]

/-- with `Recover(true)` a panic is the LAST recorded error (unless the same message was recorded before: then that
    earlier occurrence stands for it), the value is nil -/
theorem C11_contract_panic_recovered (E : Env) (hrec : E.opts.recover = true) (p : PanicVal) (w : Spec.World)
    (rule : Option Rule) (pos : Pos) (hs : w.site = some (rule, pos)) :
    Spec.finish E (.panic p w) =
      .ret .nil (dedupe (w.errs ++ [Spec.errPrefix E { rule := rule, handlers := [] } pos ++ ": " ++ panicMessage p])) := by
  simp [Spec.finish, hrec, hs]

/-- with `Recover(false)` a panic propagates -/
theorem C11_contract_panic_propagates (E : Env) (hrec : E.opts.recover = false) (p : PanicVal) (w : Spec.World) :
    Spec.finish E (.panic p w) = .panic p w.errs := by
  simp [Spec.finish, hrec]

/-- the specification records a code block's error at the START of the action's match, in the current rule, and goes on -/
theorem C11_contract_action_error_recorded (E : Env) (rec : Spec.Ctx → Expr → List (String × Val) → Savepoint → Spec.World → Spec.Res)
    (k id blk : Nat) (e1 : Expr) (c : Spec.Ctx) (env : List (String × Val)) (pt pt' : Savepoint) (w w1 : Spec.World)
    (v1 : Val) (env' : List (String × Val)) (h : rec c e1 env pt w = .ok v1 pt' env' w1)
    (hnp : (Spec.call E blk env' pt' { w1 with curPos := pt.pos, curText := Spec.slice E pt pt' }).1.panic = none) :
    Spec.evalStep E rec k c (.action id blk e1) env pt w =
      .ok (Spec.call E blk env' pt' { w1 with curPos := pt.pos, curText := Spec.slice E pt pt' }).1.ret pt' env'
        (Spec.rollback E
          (Spec.addErrAt E c (Spec.call E blk env' pt' { w1 with curPos := pt.pos, curText := Spec.slice E pt pt' }).2
            (Spec.call E blk env' pt' { w1 with curPos := pt.pos, curText := Spec.slice E pt pt' }).1.err pt.pos)
          w1.state) := by
  dsimp only [Spec.evalStep]; rw [h]; simp only [hnp]

/-- **errors are never taken back** (the PEG specification, every depth, every expression): whatever the evaluation of an
    expression ends in - a match, a failure that backtracking will undo, a panic - the error list of the resulting world
    extends the one it started with. An error a code block returns (or the `invalid encoding` error of a byte the reader
    advanced onto: C17) inside an alternative that is later rejected stays recorded: "parsing continues". -/
theorem C11_errors_are_never_taken_back (E : Env) (f : Nat) (c : Spec.Ctx) (e : Expr) (env : List (String × Val))
    (pt : Savepoint) (w w' : Spec.World) (h : (Spec.eval E f c e env pt w).world? = some w') : w.errs <+: w'.errs :=
  Spec.eval_grows E f c e env pt w w' h

/-- what is recorded when the start rule returns is what `Parse` returns (each message once): with
    `C11_parse_contract`, every error recorded at any point of a plain parse is in the returned list -/
theorem C11_final_errors_are_returned (E : Env) (res : Spec.Res) (w : Spec.World) (hw : res.world? = some w)
    (v : Val) (errs : List String) (hf : Spec.finish E res = .ret v errs) (m : String) (hm : m ∈ w.errs) : m ∈ errs := by
  cases res with
  | oof => nomatch hw
  | ok v1 pt env w1 => cases hw; cases hf; exact (C11_dedupe_mem _ m).mpr hm
  | fail env w1 =>
    cases hw
    rw [C11_contract_failure_with_errors E env w (List.ne_nil_of_mem hm)] at hf
    cases hf; exact (C11_dedupe_mem _ m).mpr hm
  | panic p w1 =>
    cases hw
    unfold Spec.finish at hf
    rcases ite_eq_cases hf with ⟨_, hf⟩ | ⟨_, hf⟩
    · generalize w.site = o at hf
      obtain _ | ⟨rule, pos⟩ := o <;> cases hf
      · exact (C11_dedupe_mem _ m).mpr hm
      · exact (C11_dedupe_mem _ m).mpr (List.mem_append_left _ hm)
    · cases hf

end RT
end PV
